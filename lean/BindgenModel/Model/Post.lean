import BindgenModel.Generated.PostTables
import BindgenModel.Model.InsertSort
/-! # C18 — model of `bindgen/codegen/postprocessing/{mod,merge_extern_blocks,sort_semantically}.rs`

The model is parametric in the type `α` of "token text" (only equality of texts matters); the
line-protocol driver instantiates it with interned identifiers.

* `Item`: what `syn::Item` is to the passes — a plain item (its `syn::Item` variant, hence its sort
  rank, and its token text), a foreign mod (`ItemForeignMod{attrs, abi, unsafety, items}`), or an
  inline module `mod m { … }` (header text = attributes/visibility/name, and its items).
* `mergeLevel` = `merge_extern_blocks::visit_items` (literal loop), `sortLevel` =
  `sort_semantically::visit_items` (`sort_by_key`, a *stable* sort: modelled by insertion sort;
  `Props/C18.lean` proves that any stable sort gives the same list).
* both visitors apply `visit_items` to a level and then recurse into the inline modules; `treeFile`
  is written children-first (structural recursion) and `Props/C18.lean` (`C18_visit_order`) proves
  it equal to the code's level-first order.
* `Generated.mergeKeyFields`, `Generated.sortRank`, `Generated.passes` come from the source. -/
namespace BindgenModel.Post
open BindgenModel.Generated

structure Foreign (α : Type) where
  attrs : α
  abi : α
  unsafety : Bool
  items : List α
deriving DecidableEq, Repr

inductive Item (α : Type) where
  | plain (kind : ItemKind) (text : α)
  | foreign (f : Foreign α)
  | module (head : α) (items : List (Item α))
deriving Repr

variable {α : Type} [DecidableEq α]

/-- the key of `sort_by_key` -/
def Item.rank : Item α → Nat
  | .plain k _ => sortRank k
  | .foreign _ => sortRank .foreignMod
  | .module _ _ => sortRank .mod

def Item.isForeign : Item α → Bool
  | .foreign _ => true
  | _ => false

def Item.asForeign : Item α → Option (Foreign α)
  | .foreign f => some f
  | _ => none

/-! ## merge_extern_blocks -/

def fieldEq (a b : Foreign α) : MergeField → Bool
  | .attrs => a.attrs == b.attrs
  | .abi => a.abi == b.abi
  | .unsafety => a.unsafety == b.unsafety

/-- `extern_block.attrs == attrs && extern_block.abi == abi` (the compared fields come from the source) -/
def keyEq (fields : List MergeField) (a b : Foreign α) : Bool := fields.all (fieldEq a b)

/-- the inner `for extern_block in &mut extern_blocks` loop followed by `if !exists { push }` -/
def absorb (fields : List MergeField) : List (Foreign α) → Foreign α → List (Foreign α)
  | [], f => [f]
  | b :: bs, f =>
    if keyEq fields b f then { b with items := b.items ++ f.items } :: bs
    else b :: absorb fields bs f

/-- one iteration of `for item in std::mem::take(items)`; state = (items pushed back, extern_blocks) -/
def mergeStep (fields : List MergeField) (st : List (Item α) × List (Foreign α)) (it : Item α) :
    List (Item α) × List (Foreign α) :=
  match it with
  | .foreign f => (st.1, absorb fields st.2 f)
  | x => (st.1 ++ [x], st.2)

/-- `merge_extern_blocks::visit_items` -/
def mergeLevel (fields : List MergeField) (items : List (Item α)) : List (Item α) :=
  let st := items.foldl (mergeStep fields) ([], [])
  st.1 ++ st.2.map Item.foreign

/-! ## sort_semantically -/

/-- `sort_semantically::visit_items` -/
def sortLevel (items : List (Item α)) : List (Item α) := stableSort Item.rank items

/-! ## pass selection and recursion -/

structure Config where
  merge : Bool
  sort : Bool
deriving DecidableEq, Repr

def Config.runs (c : Config) : Pass → Bool
  | .mergeExternBlocks => c.merge
  | .sortSemantically => c.sort

def passLevel (fields : List MergeField) : Pass → List (Item α) → List (Item α)
  | .mergeExternBlocks => mergeLevel fields
  | .sortSemantically => sortLevel

mutual
/-- apply the level operation `L` to the item list of every inline module (children first) -/
def treeItem (L : List (Item α) → List (Item α)) : Item α → Item α
  | .module h is => .module h (L (treeList L is))
  | x => x
def treeList (L : List (Item α) → List (Item α)) : List (Item α) → List (Item α)
  | [] => []
  | x :: xs => treeItem L x :: treeList L xs
end

/-- … and to the file's own item list -/
def treeFile (L : List (Item α) → List (Item α)) (items : List (Item α)) : List (Item α) :=
  L (treeList L items)

/-- `merge_extern_blocks(file)` / `sort_semantically(file)`: `visit_items` on the file's items and on
the items of every inline module (`Props/C18.lean`, `C18_visit_order`: level-first = children-first) -/
def passFile (fields : List MergeField) (p : Pass) (items : List (Item α)) : List (Item α) :=
  treeFile (passLevel fields p) items

/-- `for pass in PASSES { if (pass.should_run)(options) { (pass.run)(&mut file) } }` -/
def postprocessWith (fields : List MergeField) (passes : List Pass) (c : Config) (items : List (Item α)) :
    List (Item α) :=
  passes.foldl (fun file p => if c.runs p then passFile fields p file else file) items

/-- `postprocessing(items, options)` with the tables extracted from the source -/
def postprocess (c : Config) (items : List (Item α)) : List (Item α) :=
  postprocessWith mergeKeyFields passes c items

/-! ## observations used by the property -/

/-- a foreign item together with its block's attributes, ABI and unsafety -/
structure Tuple (α : Type) where
  attrs : α
  abi : α
  unsafety : Bool
  item : α
deriving DecidableEq, Repr

def Foreign.tuples (f : Foreign α) : List (Tuple α) := f.items.map fun i => ⟨f.attrs, f.abi, f.unsafety, i⟩

def blocksOf (items : List (Item α)) : List (Foreign α) := items.filterMap Item.asForeign

def tuplesOf (items : List (Item α)) : List (Tuple α) := (blocksOf items).flatMap Foreign.tuples

/-- region of known finding `merge_mixed_unsafety`: two blocks of one level agree on
(attrs, abi) but not on unsafety -/
def mixedUnsafetyBlocks : List (Foreign α) → Bool
  | [] => false
  | b :: bs => bs.any (fun c => b.attrs == c.attrs && b.abi == c.abi && b.unsafety != c.unsafety)
      || mixedUnsafetyBlocks bs

mutual
def mixedUnsafetyItem : Item α → Bool
  | .module _ is => mixedUnsafetyBlocks (blocksOf is) || mixedUnsafetyList is
  | _ => false
def mixedUnsafetyList : List (Item α) → Bool
  | [] => false
  | x :: xs => mixedUnsafetyItem x || mixedUnsafetyList xs
end

/-- the region predicate on a whole file -/
def mixedUnsafety (items : List (Item α)) : Bool :=
  mixedUnsafetyBlocks (blocksOf items) || mixedUnsafetyList items

end BindgenModel.Post

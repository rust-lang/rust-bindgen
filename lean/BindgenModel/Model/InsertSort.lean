/-! # Stable insertion sort by a natural-number key

The model of Rust's `sort_by_key` (a stable sort) in `sort_semantically::visit_items`
(`Model/Post.lean`, `sortLevel`).  Three other models sort and write the same function out in their own
files: `Determinism.ordInsert` / `sortList` (`Vec::sort` after a `collect`) and `PanicSites.insertSorted` /
`classifiedHashes` for the key `id`, `Opts.insertByOrder` / `byOrder` (the `apply_args!` order) for the key
`·.1`.  `Lemmas/InsertSort.lean` proves the properties once for every key; each of those models has one
bridging equation to it. -/
namespace BindgenModel.Post

/-- insert `x` before the first element whose key is not smaller (x precedes its equals:
it came first in the input) -/
def insertBy (key : β → Nat) (x : β) : List β → List β
  | [] => [x]
  | y :: ys => if key x ≤ key y then x :: y :: ys else y :: insertBy key x ys

/-- stable sort by a natural-number key -/
def stableSort (key : β → Nat) : List β → List β
  | [] => []
  | x :: xs => insertBy key x (stableSort key xs)

end BindgenModel.Post

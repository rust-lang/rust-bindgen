import BindgenModel.Model.LayoutTests
import BindgenModel.Model.Analyses
import BindgenModel.Generated.TemplateGate
/-!
# C06 — the gate of the per-instantiation assertion (`uses_any_template_parameters`)

`TemplateInstantiation::codegen` drops the size/alignment assertion when
`ctx.uses_any_template_parameters(item.id())`.  With `--no-recursive-allowlist` the map behind that
question is not computed by the analysis but filled with every allowlisted item's *own* template
parameters (`find_used_template_parameters`, ir/context.rs; `Analyses.templateNonRecursive`).  An
instantiation has none of its own, so on that path the gate never closes: every non-opaque
instantiation with a known layout gets its assertion, wherever it is declared (for instance as a
member of a class template).
-/
namespace BindgenModel.C06
open BindgenModel.LayoutTests BindgenModel.Analyses BindgenModel.IR BindgenModel.Generated

theorem selfParams_inst (g : IR) (k n : Nat) (h : (g.get n).tk = .templateInstantiation) :
    selfParams g k n = [] := by
  cases k with
  | zero => rfl
  | succ k => simp [selfParams, h]

theorem mem_templateNonRecursive (g : IR) (e : Nat × List Nat) (h : e ∈ templateNonRecursive g) :
    (g.get e.1).allowlisted = true ∧ (g.get e.1).kind = .type ∧ e.2 = selfParams g g.size e.1 ∧ e.2 ≠ [] := by
  obtain ⟨n, -, hn⟩ := List.mem_filterMap.1 h
  simp only [Option.ite_none_right_eq_some, Option.ite_none_left_eq_some, Option.some.injEq] at hn
  obtain ⟨ha, he, rfl⟩ := hn
  by_cases hk : (g.get n).kind = .type
  · simpa [ha, hk] using he
  · simp [hk] at he

theorem C06_nonrecursive_inst_not_gated (g : IR) (n : Nat) (h : (g.get n).tk = .templateInstantiation) :
    usesAny (templateNonRecursive g) n = false := by
  unfold usesAny
  cases hf : (templateNonRecursive g).find? (·.1 == n) with
  | none => rfl
  | some e =>
    -- an entry for `n` would hold `n`'s own parameters, and not be empty
    obtain ⟨-, -, h2, h3⟩ := mem_templateNonRecursive g e (List.mem_of_find?_eq_some hf)
    have he : e.1 = n := by simpa using List.find?_some hf
    rw [he, selfParams_inst g g.size n h] at h2
    exact absurd h2 h3

theorem C06_nonrecursive_inst_asserted (g : IR) (n : Nat) (o : LayoutTests.Opts) (size align : Nat)
    (h : (g.get n).tk = .templateInstantiation) (ht : o.layoutTests = true) (hop : (g.get n).isOpaque = false)
    (hl : (g.get n).layout = some (size, align)) :
    instAsserts o { isOpaque := (g.get n).isOpaque, usesTemplateParams := usesAny (templateNonRecursive g) n,
                    layout := (g.get n).layout } =
      some { form := formOf o, asserts := [.size size, .align align] } := by
  simp [instAsserts, ht, hop, hl, C06_nonrecursive_inst_not_gated g n h]

/-- the map filled with *all* parameters in scope instead (own and ancestors') -/
def allParamsMap (g : IR) : List (Nat × List Nat) :=
  (List.range g.size).filterMap fun n =>
    let i := g.get n
    if i.allowlisted && !i.allTparams.isEmpty then some (n, i.allTparams) else none

/-- `template<class T> struct Holder { Box<bool> flags; }`: item 3 is `Box<bool>`, declared in
`Holder` (item 2) whose parameter is item 1 -/
def nestedInst : IR :=
  { items := #[{}, { id := 1, kind := .type, tk := .typeParam, allowlisted := true },
               { id := 2, kind := .type, tk := .comp, allowlisted := true, selfTparams := [1], allTparams := [1] },
               { id := 3, kind := .type, tk := .templateInstantiation, allowlisted := true, parent := 2,
                 allTparams := [1], layout := some (2, 1) }] }

/-- with `allParamsMap` an instantiation declared inside a class template inherits the template's
parameter and loses its assertion although its arguments are concrete -/
theorem C06_ancestor_params_would_gate :
    usesAny (allParamsMap nestedInst) 3 = true ∧ usesAny (templateNonRecursive nestedInst) 3 = false := by
  decide +kernel

/-- **source obligation**: the non-recursive branch of `find_used_template_parameters` fills the map
with each allowlisted item's own parameters -/
theorem C06_nonrecursive_map_in_source : nonRecursiveParamSource = "self" := by decide +kernel

/-- **source obligation**: `TemplateInstantiation::codegen` gates the assertion by exactly the two
early returns of `instAsserts`, in that order, before the layout is looked up -/
theorem C06_inst_gates_in_source :
    instAssertGates = ["layoutTestsOrOpaque", "usesAny", "layout"] ∧ instAssertReturns = 2 := by decide +kernel

end BindgenModel.C06

import BindgenModel.Model.Names
/-! # C01 — generated bindings compile for every accepted header and option set (partial)

Compilation by rustc is outside any model.  What is logic is proved here: identifiers produced by
`rust_mangle` are never keywords and never contain the characters the function replaces; the
keyword table regenerated from the source covers Rust's strict and reserved keywords of every
edition; `rust_mangle` is injective only on a region (witness otherwise); the overload numbering of
`CodegenResult` yields unique names only on a region (witness otherwise). -/
namespace BindgenModel.Names
open BindgenModel.Generated

/-- The full statement on the model (identifier half): distinct C names give distinct, legal Rust
identifiers.  False (`C01_names_statement_false`). -/
def C01_names_statement : Prop :=
  (∀ n : Ident, isKeyword (rustMangle n) = false) ∧
  (∀ a b : Ident, rustMangle a = rustMangle b → a = b) ∧
  (∀ cs : List Ident, (assignNames cs).Nodup)

/-! ## table obligations (break when the source table changes) -/

theorem C01_kw_table_suffix : ∀ k ∈ keywords, k.getLast? = some mangleSuffix → k.length = 1 := by decide +kernel

theorem C01_kw_table_suffix_not_trigger : isTrigger mangleSuffix = false := by decide

theorem C01_repl_table_keys : ∀ p ∈ replacements, isTrigger p.1 = true := by decide

theorem C01_repl_table_clears : ∀ x ∈ triggerChars, isTrigger (applyRepl x) = false := by decide

/-- Rust's strict and reserved keywords (reference: The Rust Reference, "Keywords") per edition;
`_` is the reserved identifier. -/
def rustKeywords2015 : List Ident := [
  ['a','s'], ['b','r','e','a','k'], ['c','o','n','s','t'], ['c','o','n','t','i','n','u','e'], ['c','r','a','t','e'],
  ['e','l','s','e'], ['e','n','u','m'], ['e','x','t','e','r','n'], ['f','a','l','s','e'], ['f','n'], ['f','o','r'],
  ['i','f'], ['i','m','p','l'], ['i','n'], ['l','e','t'], ['l','o','o','p'], ['m','a','t','c','h'], ['m','o','d'],
  ['m','o','v','e'], ['m','u','t'], ['p','u','b'], ['r','e','f'], ['r','e','t','u','r','n'], ['s','e','l','f'],
  ['S','e','l','f'], ['s','t','a','t','i','c'], ['s','t','r','u','c','t'], ['s','u','p','e','r'], ['t','r','a','i','t'],
  ['t','r','u','e'], ['t','y','p','e'], ['u','n','s','a','f','e'], ['u','s','e'], ['w','h','e','r','e'], ['w','h','i','l','e'],
  -- reserved
  ['a','b','s','t','r','a','c','t'], ['b','e','c','o','m','e'], ['b','o','x'], ['d','o'], ['f','i','n','a','l'],
  ['m','a','c','r','o'], ['o','v','e','r','r','i','d','e'], ['p','r','i','v'], ['t','y','p','e','o','f'],
  ['u','n','s','i','z','e','d'], ['v','i','r','t','u','a','l'], ['y','i','e','l','d'], ['_']]

def rustKeywords2018 : List Ident := rustKeywords2015 ++ [['a','s','y','n','c'], ['a','w','a','i','t'], ['d','y','n'], ['t','r','y']]
def rustKeywords2021 : List Ident := rustKeywords2018
def rustKeywords2024 : List Ident := rustKeywords2021 ++ [['g','e','n']]

theorem C01_kw_table_covers_2024 : ∀ k ∈ rustKeywords2024, isKeyword k = true := by decide +kernel
theorem C01_kw_table_covers_2021 : ∀ k ∈ rustKeywords2021, isKeyword k = true :=
  fun k hk => C01_kw_table_covers_2024 k (List.mem_append_left _ hk)
theorem C01_kw_table_covers_2018 : ∀ k ∈ rustKeywords2018, isKeyword k = true := C01_kw_table_covers_2021

theorem rustMangle_of_clean {n : Ident} (h : (hasTrigger n || isKeyword n) = false) : rustMangle n = n := by
  simp [rustMangle, h]

theorem rustMangle_of_dirty {n : Ident} (h : (hasTrigger n || isKeyword n) = true) :
    rustMangle n = n.map applyRepl ++ [mangleSuffix] := by
  simp [rustMangle, h]

theorem ne_nil_of_dirty {n : Ident} (h : (hasTrigger n || isKeyword n) = true) : n ≠ [] := by
  rintro rfl
  exact absurd h (by decide)

theorem foldl_repl_of_not_key (rs : List (Char × Char)) (x : Char) (h : ∀ p ∈ rs, x ≠ p.1) :
    rs.foldl (fun c p => if c = p.1 then p.2 else c) x = x := by
  induction rs with
  | nil => rfl
  | cons p rs ih =>
    rw [List.foldl_cons, if_neg (h p List.mem_cons_self), ih (fun q hq => h q (List.mem_cons_of_mem _ hq))]

theorem applyRepl_of_not_trigger (x : Char) (h : isTrigger x = false) : applyRepl x = x :=
  foldl_repl_of_not_key _ x fun p hp e => by
    have := C01_repl_table_keys p hp
    rw [← e, h] at this
    cases this

theorem isTrigger_applyRepl (x : Char) : isTrigger (applyRepl x) = false := by
  cases h : isTrigger x
  · rwa [applyRepl_of_not_trigger x h]
  · exact C01_repl_table_clears x (by simpa [isTrigger] using h)

theorem map_applyRepl_clean {n : Ident} (h : hasTrigger n = false) : n.map applyRepl = n := by
  rw [hasTrigger, List.any_eq_false] at h
  exact (List.map_congr_left fun x hx => applyRepl_of_not_trigger x (by simpa using h x hx)).trans (List.map_id' n)

theorem hasTrigger_mangled (n : Ident) : hasTrigger (n.map applyRepl ++ [mangleSuffix]) = false := by
  simp [hasTrigger, isTrigger_applyRepl, C01_kw_table_suffix_not_trigger]

/-- a listed keyword that ends in the suffix has one character; a mangled name has at least two -/
theorem isKeyword_mangled {n : Ident} (hne : n ≠ []) : isKeyword (n.map applyRepl ++ [mangleSuffix]) = false := by
  apply Bool.eq_false_iff.mpr
  intro hk
  have hl := C01_kw_table_suffix _ (by simpa [isKeyword] using hk) (by simp)
  exact hne (by simpa using hl)

theorem rustMangle_clean (n : Ident) : (hasTrigger (rustMangle n) || isKeyword (rustMangle n)) = false := by
  cases h : (hasTrigger n || isKeyword n)
  · rwa [rustMangle_of_clean h]
  · rw [rustMangle_of_dirty h, hasTrigger_mangled, isKeyword_mangled (ne_nil_of_dirty h)]
    rfl

theorem C01_mangle_not_keyword (n : Ident) : isKeyword (rustMangle n) = false :=
  (Bool.or_eq_false_iff.mp (rustMangle_clean n)).2

theorem C01_mangle_no_illegal_char (n : Ident) : hasTrigger (rustMangle n) = false :=
  (Bool.or_eq_false_iff.mp (rustMangle_clean n)).1

/-- The identifier used at the definition, `rust_ident(canonical_name)`, equals the canonical name. -/
theorem C01_mangle_idempotent (n : Ident) : rustMangle (rustMangle n) = rustMangle n :=
  rustMangle_of_clean (rustMangle_clean n)

theorem C01_mangle_fails_injective_keyword :
    rustMangle ['m','a','t','c','h'] = rustMangle ['m','a','t','c','h','_'] ∧
      (['m','a','t','c','h'] : Ident) ≠ ['m','a','t','c','h','_'] := by decide +kernel

theorem C01_mangle_fails_injective_dollar :
    rustMangle ['a','$'] = rustMangle ['a','_','_'] ∧ (['a','$'] : Ident) ≠ ['a','_','_'] := by decide +kernel

theorem mangleCollision_iff {a b : Ident} : mangleCollision a b = true ↔ a ≠ b ∧ rustMangle a = rustMangle b := by
  simp [mangleCollision]

theorem C01_mangleCollision_witness : mangleCollision ['m','a','t','c','h'] ['m','a','t','c','h','_'] = true :=
  mangleCollision_iff.mpr C01_mangle_fails_injective_keyword.symm

theorem rustMangle_of_no_trigger {n : Ident} (h : hasTrigger n = false) :
    rustMangle n = if isKeyword n then n ++ [mangleSuffix] else n := by
  simp [rustMangle, h, map_applyRepl_clean h]

theorem C01_mangle_injective_partial (a b : Ident)
    (ha : hasTrigger a = false) (hb : hasTrigger b = false)
    (ea : a.getLast? ≠ some mangleSuffix) (eb : b.getLast? ≠ some mangleSuffix)
    (h : rustMangle a = rustMangle b) : a = b := by
  rw [rustMangle_of_no_trigger ha, rustMangle_of_no_trigger hb] at h
  split at h <;> split at h
  · exact List.append_cancel_right h
  · exact absurd (h ▸ List.getLast?_concat) eb
  · exact absurd (h ▸ List.getLast?_concat) ea
  · exact h

/-- Witness in C++: `void foo(int); void foo(char); void foo1();` -/
theorem C01_names_unique_fails_on_suffix_clash :
    assignNames [['f','o','o'], ['f','o','o'], ['f','o','o','1']] = [['f','o','o'], ['f','o','o','1'], ['f','o','o','1']] ∧
      ¬ (assignNames [['f','o','o'], ['f','o','o'], ['f','o','o','1']]).Nodup ∧
      suffixClashRegion [['f','o','o'], ['f','o','o'], ['f','o','o','1']] = true := by decide +kernel

theorem C01_names_statement_false : ¬ C01_names_statement := by
  intro h
  exact C01_mangle_fails_injective_keyword.2 (h.2.1 _ _ C01_mangle_fails_injective_keyword.1)

theorem decimal_ne_nil (n : Nat) : decimal n ≠ [] := Nat.toDigits_ne_nil

theorem decimal_all_digits (n : Nat) : (decimal n).all Char.isDigit = true := by
  rw [List.all_eq_true]
  intro c hc
  exact Nat.isDigit_of_mem_toDigits (by decide) (by decide) hc

theorem decimal_inj {a b : Nat} (h : decimal a = decimal b) : a = b := by
  have e := congrArg (Nat.ofDigitChars 10 · 0) h
  simpa [decimal, Nat.ofDigitChars_ten_toDigits] using e

/-- the suffix appended for overload number `k` -/
def suf (k : Nat) : Ident := if k = 0 then [] else decimal k

theorem suf_all_digits (k : Nat) : (suf k).all Char.isDigit = true := by
  unfold suf
  split
  · rfl
  · exact decimal_all_digits k

theorem suf_inj {a b : Nat} (h : suf a = suf b) : a = b := by
  unfold suf at h
  split at h <;> split at h
  · omega
  · exact absurd h.symm (decimal_ne_nil b)
  · exact absurd h (decimal_ne_nil a)
  · exact decimal_inj h

theorem digitExtends_of_append {c a : Ident} (hne : a ≠ []) (hd : a.all Char.isDigit = true) :
    digitExtends c (c ++ a) = true := by
  unfold digitExtends
  have hl : 0 < a.length := List.length_pos_iff.mpr hne
  simp [hd, hl]

theorem append_digits_eq {c c' d d' : Ident} (hd : d.all Char.isDigit = true) (hd' : d'.all Char.isDigit = true)
    (h : c ++ d = c' ++ d') (hne : c ≠ c') : digitExtends c c' = true ∨ digitExtends c' c = true := by
  rcases List.append_eq_append_iff.mp h with ⟨a, rfl, rfl⟩ | ⟨a, rfl, rfl⟩
  · rw [List.all_append, Bool.and_eq_true] at hd
    exact .inl (digitExtends_of_append (fun ha => hne (by simp [ha])) hd.1)
  · rw [List.all_append, Bool.and_eq_true] at hd'
    exact .inr (digitExtends_of_append (fun ha => hne (by simp [ha])) hd'.1)

theorem append_suf_inj {c c' : Ident} {k k' : Nat} (h : c ++ suf k = c' ++ suf k')
    (hcc' : digitExtends c c' = false) (hc'c : digitExtends c' c = false) : c = c' ∧ k = k' := by
  by_cases hc : c = c'
  · subst hc
    exact ⟨rfl, suf_inj (List.append_cancel_left h)⟩
  · rcases append_digits_eq (suf_all_digits k) (suf_all_digits k') h hc with e | e
    · cases hcc'.symm.trans e
    · cases hc'c.symm.trans e

theorem countOf_cons_self (xs : List Ident) (x : Ident) : countOf (x :: xs) x = countOf xs x + 1 := by
  simp [countOf]

theorem countOf_cons_le (xs : List Ident) (x y : Ident) : countOf xs y ≤ countOf (x :: xs) y := by
  simp only [countOf, List.filter_cons]
  split <;> simp

theorem assignNamesAux_cons (c : Ident) (rest counted : List Ident) :
    assignNamesAux (c :: rest) counted = (c ++ suf (countOf counted c)) :: assignNamesAux rest (c :: counted) := by
  unfold suf
  by_cases h : countOf counted c = 0 <;> simp [assignNamesAux, h]

theorem assignNamesAux_shape (cs counted : List Ident) :
    ∀ e ∈ assignNamesAux cs counted, ∃ c ∈ cs, ∃ k, countOf counted c ≤ k ∧ e = c ++ suf k := by
  induction cs generalizing counted with
  | nil => simp [assignNamesAux]
  | cons c rest ih =>
    intro e he
    rw [assignNamesAux_cons] at he
    rcases List.mem_cons.mp he with he | he
    · exact ⟨c, List.mem_cons_self, _, Nat.le_refl _, he⟩
    · obtain ⟨c', hc', k, hk, hek⟩ := ih (c :: counted) e he
      exact ⟨c', List.mem_cons_of_mem _ hc', k, Nat.le_trans (countOf_cons_le counted c c') hk, hek⟩

theorem assignNamesAux_nodup (cs counted : List Ident)
    (hreg : ∀ a ∈ cs, ∀ b ∈ cs, digitExtends a b = false) : (assignNamesAux cs counted).Nodup := by
  induction cs generalizing counted with
  | nil => simp [assignNamesAux]
  | cons c rest ih =>
    rw [assignNamesAux_cons, List.nodup_cons]
    refine ⟨fun hmem => ?_, ih (c :: counted) fun a ha b hb =>
      hreg a (List.mem_cons_of_mem _ ha) b (List.mem_cons_of_mem _ hb)⟩
    -- a later name equal to the head's would be `c` again, with a larger overload number
    obtain ⟨c', hc', k', hk', he⟩ := assignNamesAux_shape rest (c :: counted) _ hmem
    have hc' := List.mem_cons_of_mem c hc'
    obtain ⟨rfl, rfl⟩ := append_suf_inj he (hreg c List.mem_cons_self c' hc') (hreg c' hc' c List.mem_cons_self)
    rw [countOf_cons_self] at hk'
    omega

/-- Outside the region "some canonical name is another one followed by decimal digits", the names
`Function::codegen` assigns within one module are pairwise distinct. -/
theorem C01_names_unique_partial (cs : List Ident) (h : suffixClashRegion cs = false) :
    (assignNames cs).Nodup :=
  assignNamesAux_nodup cs [] (by simpa [suffixClashRegion] using h)

example : suffixClashRegion [['f'], ['f'], ['f'], ['g']] = false ∧
    assignNames [['f'], ['f'], ['f'], ['g']] = [['f'], ['f','1'], ['f','2'], ['g']] := by decide +kernel

example : rustMangle ['g','e','n'] = ['g','e','n','_'] ∧ rustMangle ['x','@','?'] = ['x','_','_','_'] ∧
    rustMangle ['f','o','o'] = ['f','o','o'] := by decide +kernel

end BindgenModel.Names

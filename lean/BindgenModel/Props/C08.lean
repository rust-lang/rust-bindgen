import BindgenModel.Model.Derives
import BindgenModel.Props.C07Instances
import BindgenModel.Props.C08Source
/-!
# C08 — traits derived exactly when the rules allow; hand-written impls act like derives

* `lfp_eq_fixpoint_of_wf`: on a graph whose reads are well-founded (by-value containment is
  acyclic) the work-list result is the unique solution of the recursive rule equations ("a type
  can derive T iff its own kind allows it and every member can").  Stated for any framework; no Lean
  statement instantiates it with the derive analysis and a depth function;
* decision theorems about `derives_of_item` / `CompInfo::codegen` for every option record and
  every analysis answer;
* rule theorems: what the per-type rule of the derive analysis answers for the constituents the
  property names (floats, pointers, enums, large arrays, unions, destructors, vtables, …).
-/
namespace BindgenModel.Worklist

variable {N L : Type} [DecidableEq N] [DecidableEq L]

omit [DecidableEq N] [DecidableEq L] in
theorem IsLeastStable.eq_fixpoint_of_wf {F : Framework N L} {s : N → L} (hs : IsLeastStable F s) (h : LawfulCore F)
    (depth : N → Nat) (hdepth : ∀ n ∈ F.nodes, ∀ m ∈ F.reads n, m ∈ F.nodes ∧ depth m < depth n)
    (p : N → L) (hp : ∀ n ∈ F.nodes, p n = F.rule p n) :
    ∀ n ∈ F.nodes, s n = p n := by
  have hle : ∀ n, F.le (s n) (p n) = true := by
    refine hs.least p fun n hn => ?_
    unfold Stable
    rw [← hp n hn]
    exact h.le_refl _
  -- by induction on the depth: the two agree on what `n` reads, so `p n = rule p n = rule s n ≤ s n`
  intro n
  induction n using (measure depth).wf.induction with
  | _ n ih =>
    intro hn
    refine h.le_antisymm _ _ (hle n) ?_
    rw [hp n hn, h.reads_only p s n fun m hm => (ih m (hdepth n hn m hm).2 (hdepth n hn m hm).1).symm]
    exact hs.stable n hn

theorem lfp_eq_fixpoint_of_wf (F : Framework N L) (h : Lawful F) (hbot : ∀ a, F.le F.bot a = true)
    (hd : ∀ n ∈ F.nodes, ∀ m ∈ F.deps n, m ∈ F.nodes) (wl : List N)
    (hwl : ∀ n ∈ wl, n ∈ F.nodes) (hall : ∀ n ∈ F.nodes, n ∈ wl)
    (depth : N → Nat) (hdepth : ∀ n ∈ F.nodes, ∀ m ∈ F.reads n, m ∈ F.nodes ∧ depth m < depth n)
    (p : N → L) (hp : ∀ n ∈ F.nodes, p n = F.rule p n) :
    ∀ n ∈ F.nodes, analyze F wl n = p n :=
  (analyze_isLeastStable F h hbot hd wl hwl hall).eq_fixpoint_of_wf h.core depth hdepth p hp

end BindgenModel.Worklist

namespace BindgenModel.Derives
open BindgenModel.IR BindgenModel.Analyses BindgenModel.Generated

/-- the order of the flag tests in `derives_of_item` -/
def traitOrder : List Trait := [.copy, .clone, .debug, .default, .hash, .partialOrd, .ord, .partialEq, .eq]

def allowed (o : Opts) (L : Lookups) (a : Ann) (n : Nat) : Trait → Bool
  | .copy | .clone => gate o L n .copy && !a.noCopy
  | .debug => gate o L n .debug && !a.noDebug
  | .default => gate o L n .default && !a.noDefault
  | t => gate o L n t

theorem filter_cons_eq_append {α : Type} (p : α → Bool) (x : α) (l : List α) :
    (x :: l).filter p = (if p x = true then [x] else []) ++ l.filter p := by
  rw [List.filter_cons]
  split <;> rfl

theorem derivesOfItem_eq_filter (o : Opts) (L : Lookups) (a : Ann) (packed : Bool) (n : Nat) :
    derivesOfItem o L a packed n =
      if (!allowed o L a n .copy && packed) = true then [] else traitOrder.filter (allowed o L a n) := by
  unfold derivesOfItem traitOrder
  -- both sides as a chain of optional segments; unfolding `filter` into nested `if`s instead would double the
  -- term at every trait
  simp only [filter_cons_eq_append, List.filter_nil, allowed, List.append_assoc, List.append_nil]
  by_cases hc : (gate o L n .copy && !a.noCopy) = true <;> simp only [hc, ↓reduceIte] <;> rfl

theorem mem_traitOrder (t : Trait) : t ∈ traitOrder := by
  cases t <;> decide

theorem mem_derivesOfItem (o : Opts) (L : Lookups) (a : Ann) (packed : Bool) (n : Nat) (t : Trait) :
    t ∈ derivesOfItem o L a packed n ↔
      (packed = true → allowed o L a n .copy = true) ∧ allowed o L a n t = true := by
  rw [derivesOfItem_eq_filter]
  cases allowed o L a n .copy <;> cases packed <;> simp [List.mem_filter, mem_traitOrder]

theorem mem_derivesOfItem_mono {o : Opts} {L : Lookups} {a : Ann} {packed : Bool} {n : Nat} {t t' : Trait}
    (h : t ∈ derivesOfItem o L a packed n) (hi : allowed o L a n t = true → allowed o L a n t' = true) :
    t' ∈ derivesOfItem o L a packed n := by
  rw [mem_derivesOfItem] at h ⊢
  exact ⟨h.1, hi h.2⟩

theorem derive_requires_option (o : Opts) (L : Lookups) (a : Ann) (packed : Bool) (n : Nat) (t : Trait)
    (h : t ∈ derivesOfItem o L a packed n) :
    (match t with
     | .copy | .clone => o.deriveCopy | .debug => o.deriveDebug | .default => o.deriveDefault
     | .hash => o.deriveHash | .partialOrd => o.derivePartialord | .ord => o.deriveOrd
     | .partialEq => o.derivePartialeq | .eq => o.deriveEq) = true := by
  have := ((mem_derivesOfItem o L a packed n t).mp h).2
  cases t <;> simp only [allowed, gate, Bool.and_eq_true] at this <;> simp only [this]

theorem derive_requires_analysis (o : Opts) (L : Lookups) (a : Ann) (packed : Bool) (n : Nat) :
    (Trait.copy ∈ derivesOfItem o L a packed n → L.canCopy n = true ∧ a.noCopy = false) ∧
    (Trait.debug ∈ derivesOfItem o L a packed n → L.canDebug n = true ∧ a.noDebug = false) ∧
    (Trait.default ∈ derivesOfItem o L a packed n → L.canDefault n = true ∧ a.noDefault = false) ∧
    (Trait.hash ∈ derivesOfItem o L a packed n → L.canHash n = true) ∧
    (Trait.partialEq ∈ derivesOfItem o L a packed n → L.partialEq n = 0) ∧
    (Trait.partialOrd ∈ derivesOfItem o L a packed n → L.partialEq n = 0) ∧
    (Trait.eq ∈ derivesOfItem o L a packed n → L.partialEq n = 0 ∧ L.hasFloat n = false) ∧
    (Trait.ord ∈ derivesOfItem o L a packed n → L.partialEq n = 0 ∧ L.hasFloat n = false) := by
  simp only [mem_derivesOfItem, allowed, gate, Bool.and_eq_true, Bool.not_eq_true', beq_iff_eq]
  refine ⟨?_, ?_, ?_, ?_, ?_, ?_, ?_, ?_⟩ <;> intro h <;> simp only [h, and_self]

theorem packed_requires_copy (o : Opts) (L : Lookups) (a : Ann) (n : Nat)
    (h : (gate o L n .copy && !a.noCopy) = false) : derivesOfItem o L a true n = [] := by
  rw [derivesOfItem_eq_filter, if_pos]
  simp only [allowed, h]
  rfl

theorem derive_complete (o : Opts) (L : Lookups) (a : Ann) (packed : Bool) (n : Nat) (t : Trait)
    (hpk : packed = false ∨ (gate o L n .copy && !a.noCopy) = true)
    (hg : gate o L n t = true)
    (ha : (match t with
           | .copy | .clone => a.noCopy | .debug => a.noDebug | .default => a.noDefault
           | _ => false) = false) :
    t ∈ derivesOfItem o L a packed n := by
  rw [mem_derivesOfItem]
  refine ⟨fun hp => hpk.resolve_left (by simp [hp]), ?_⟩
  cases t <;> simp only [allowed, Bool.and_eq_true, Bool.not_eq_true'] <;> first | exact ⟨hg, ha⟩ | exact hg

/-- a repeated trait in `#[derive(..)]` is a rustc error -/
theorem derives_nodup (o : Opts) (L : Lookups) (a : Ann) (packed : Bool) (n : Nat) :
    (derivesOfItem o L a packed n).Nodup := by
  rw [derivesOfItem_eq_filter]
  split
  · exact List.nodup_nil
  · exact List.Pairwise.filter _ (by decide)

/-- rustc rejects `#[derive(Eq)]` without `PartialEq`, `Ord` without `PartialOrd` and `Eq`.  With the
supertrait's option off the derive is emitted alone: known finding `derive_supertrait_options` -/
theorem supertraits_present (o : Opts) (L : Lookups) (a : Ann) (packed : Bool) (n : Nat) :
    (Trait.eq ∈ derivesOfItem o L a packed n → o.derivePartialeq = true →
      Trait.partialEq ∈ derivesOfItem o L a packed n) ∧
    (Trait.ord ∈ derivesOfItem o L a packed n → o.derivePartialord = true →
      Trait.partialOrd ∈ derivesOfItem o L a packed n) ∧
    (Trait.ord ∈ derivesOfItem o L a packed n → o.deriveEq = true →
      Trait.eq ∈ derivesOfItem o L a packed n) := by
  -- with its option on, the gate of the supertrait asks for a part of what the gate of the subtrait asks for
  refine ⟨fun h ho => mem_derivesOfItem_mono h ?_, fun h ho => mem_derivesOfItem_mono h ?_,
    fun h ho => mem_derivesOfItem_mono h ?_⟩ <;>
  · simp only [allowed, gate, ho, Bool.and_eq_true, Bool.true_and]
    intro hg
    simp only [hg, and_self]

/-- the annotations are `nocopy`, `nodebug` and `nodefault` -/
theorem annotation_removes_only_its_trait (o : Opts) (L : Lookups) (a : Ann) (n : Nat) (t : Trait)
    (ht : t ≠ .copy ∧ t ≠ .clone ∧ t ≠ .debug ∧ t ≠ .default) :
    t ∈ derivesOfItem o L a false n ↔ t ∈ derivesOfItem o L {} false n := by
  simp only [mem_derivesOfItem, Bool.false_eq_true, false_imp_iff, true_and]
  obtain ⟨h1, h2, h3, h4⟩ := ht
  -- for the remaining traits `allowed` does not look at the annotations
  cases t <;> first | contradiction | rfl

theorem clone_iff_copy (o : Opts) (L : Lookups) (a : Ann) (packed : Bool) (n : Nat) :
    Trait.clone ∈ derivesOfItem o L a packed n ↔ Trait.copy ∈ derivesOfItem o L a packed n := by
  rw [mem_derivesOfItem, mem_derivesOfItem]
  rfl

theorem fwd_only_debug (o : Opts) (L : Lookups) (a : Ann) (packed : Bool) (n : Nat) (t : Trait)
    (h : t ∈ compDerives o L a packed true n) : t = .debug := by
  unfold compDerives at h
  simp only [if_true] at h
  split at h <;> simp_all

theorem manual_impls_only_when_not_derived (o : Opts) (L : Lookups) (a : Ann) (packed fwd : Bool)
    (nd nf : Bool) (n : Nat) :
    let m := manualImpls o L a packed fwd nd nf n
    (m.debug = true → Trait.debug ∉ compDerives o L a packed fwd n ∧ o.deriveDebug = true ∧ o.implDebug = true) ∧
    (m.default = true → Trait.default ∉ compDerives o L a packed fwd n ∧ o.deriveDefault = true ∧ fwd = false) ∧
    (m.partialEq = true → Trait.partialEq ∉ compDerives o L a packed fwd n ∧ o.implPartialeq = true ∧ L.partialEq n = 1) := by
  -- each flag is a conjunction that contains what is claimed of it
  simp only [manualImpls, Bool.and_eq_true, Bool.not_eq_true', List.contains_eq_mem, decide_eq_false_iff_not,
    beq_iff_eq]
  refine ⟨fun h => ?_, fun h => ⟨h.1, h.2.1.1⟩, fun h => ?_⟩
  · simp only [h, not_false_eq_true, and_self]
  · simp only [h, not_false_eq_true, and_self]

/-! `(ruleDeriveType g cx t inNodes n).const = 2` means `No` regardless of the members (`const_two_eval`). -/

section rules
variable (g : IR) (cx : DeriveCtx) (inNodes : Nat → Bool) (n : Nat)

/-- an allow-listed, not excluded, non-opaque type -/
def Plain (t : DeriveTrait) : Prop :=
  (g.get n).allowlisted = true ∧ (g.get n).nbn.getD (nbnIndex t) false = false ∧ (g.get n).isOpaque = false

theorem float_blocks_hash (hp : Plain g n .hash) (hk : (g.get n).tk = .float ∨ (g.get n).tk = .complex) :
    (ruleDeriveType g cx .hash inNodes n).const = 2 := by
  unfold ruleDeriveType
  rcases hk with hk | hk <;> simp [hp.1, hp.2.2, hk, canDeriveSimple]

theorem pointer_blocks_default (hp : Plain g n .default) (hk : (g.get n).tk = .pointer)
    (hnf : ∀ p, (g.get n).inner = some p → (g.get (g.canon p)).tk ≠ .function) :
    (ruleDeriveType g cx .default inNodes n).const = 2 := by
  unfold ruleDeriveType
  simp only [hp.1, hp.2.1, hp.2.2, hk]
  cases hi : (g.get n).inner with
  | none => simp [canDerivePointer]
  | some p => simp [hnf p hi, canDerivePointer]

theorem enum_blocks_default (hp : Plain g n .default) (hk : (g.get n).tk = .enum) :
    (ruleDeriveType g cx .default inNodes n).const = 2 := by
  unfold ruleDeriveType
  simp [hp.1, hp.2.2, hk, canDeriveSimple]

/-- arrays beyond the 32-element limit: `Default` is `Manually` at best (never plain `Yes`) -/
theorem large_array_not_default (hp : Plain g n .default) (hk : (g.get n).tk = .array)
    (hlen : (g.get n).len > 32) : (ruleDeriveType g cx .default inNodes n).const ≥ 1 := by
  have hl0 : ¬ (g.get n).len = 0 := by omega
  unfold ruleDeriveType
  -- the array's own answer is `Manually`; an element outside the allow-list can only raise it
  simp only [hp.1, hp.2.1, hp.2.2, hk, hl0, canDeriveLargeArray, rustDeriveInArrayLimit, hlen, Bool.not_true,
    Bool.false_eq_true, if_false, decide_false, Bool.false_and, if_true]
  split
  · split
    · exact Fin.le_refl _
    · exact le_vmax_left 1 _
  · exact Fin.le_refl _

theorem union_only_copy (t : DeriveTrait) (ht : t ≠ .copy) (hp : Plain g n t)
    (hk : (g.get n).tk = .comp) (hu : (g.get n).isUnion = true) (hopt : g.opts.untaggedUnion = true)
    (hf : ¬ (!canDeriveCompoundForwardDecl t && (g.get n).fwd) = true)
    (hdt : ¬ (!canDeriveCompoundWithDestructor t && cx.hasDestructor n) = true) :
    (ruleDeriveType g cx t inNodes n).const = 2 := by
  have hcu : canDeriveUnion t = false := by cases t <;> first | rfl | exact absurd rfl ht
  unfold ruleDeriveType
  simp [hp.1, hp.2.2, hk, hu, hopt, hf, hdt, hcu]

theorem destructor_blocks_copy (hp : Plain g n .copy) (hk : (g.get n).tk = .comp)
    (hfw : (g.get n).fwd = false) (hd : cx.hasDestructor n = true) :
    (ruleDeriveType g cx .copy inNodes n).const = 2 := by
  unfold ruleDeriveType
  simp [hp.1, hp.2.2, hk, hfw, hd, canDeriveCompoundForwardDecl, canDeriveCompoundWithDestructor]

theorem vtable_blocks_default (hp : Plain g n .default) (hk : (g.get n).tk = .comp)
    (hfw : (g.get n).fwd = false) (hu : (g.get n).isUnion = false) (hv : cx.hasVtable n = true) :
    (ruleDeriveType g cx .default inNodes n).const = 2 := by
  unfold ruleDeriveType
  simp [hp.1, hp.2.2, hk, hfw, hu, hv, canDeriveCompoundForwardDecl, canDeriveCompoundWithDestructor,
    canDeriveCompoundWithVtable]

/-- excluded by `--no-copy`, `--no-debug`, … -/
theorem excluded_by_name (t : DeriveTrait) (ha : (g.get n).allowlisted = true)
    (hx : (g.get n).nbn.getD (nbnIndex t) false = true) :
    (ruleDeriveType g cx t inNodes n).const = 2 := by
  simp only [List.getD_eq_getElem?_getD] at hx
  unfold ruleDeriveType
  simp [ha, hx]

/-- a blocklisted type is assumed not to implement anything (unless its name is a stdint name) -/
theorem blocklisted_no_derive (t : DeriveTrait) (ha : (g.get n).allowlisted = false)
    (hs : ((g.get n).hasName && (g.get n).stdint) = false) :
    (ruleDeriveType g cx t inNodes n).const = 2 :=
  C08_blocklisted_opaque_is_no g cx t inNodes n ha hs

end rules

theorem const_two_eval (r : NodeRule) (s : Nat → V) (h : r.const = 2) : r.eval s = 2 :=
  Fin.le_antisymm (Fin.le_last _) (h ▸ ((eval_le_iff r s _).mp (Fin.le_refl _)).1)

example : derivesOfItem { deriveDefault := true } ⟨fun _ => true, fun _ => true, fun _ => true,
    fun _ => true, fun _ => 0, fun _ => false, fun _ => false⟩ {} false 1
    = [.copy, .clone, .debug, .default] := by decide

end BindgenModel.Derives

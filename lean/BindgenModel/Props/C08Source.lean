import BindgenModel.Model.Analyses
import BindgenModel.Generated.CodegenOrder
import BindgenModel.Generated.AnnotationSource
/-!
# C08 / C10 — the early answers of `CannotDerive::constrain_type` come in the modelled order

`ruleDeriveType` (Model/Analyses.lean) answers, in this order: not allow-listed ⇒ what the blocklist callback
(`blocklisted_type_implements_trait`) vouches for; excluded by name ⇒ No; opaque ⇒ Yes from the layout (No for
Rust unions); otherwise by kind.  The order matters for items that satisfy two guards at once (a type that is
blocklisted and opaque: seeded changes C10-1 and C10-7 moved the opaque answer in front of the blocklist
answer).  `C08_derive_guard_order_in_source` pins the order on the regenerated table.
-/
namespace BindgenModel.Analyses
open BindgenModel.Generated BindgenModel.IR

theorem C08_derive_guard_order_in_source :
    deriveGuardOrder = ["notAllowlisted", "byName", "opaque", "kindMatch"] := rfl

theorem C08_not_allowlisted_first (g : IR) (cx : DeriveCtx) (t : DeriveTrait) (inNodes : Nat → Bool) (n : Nat)
    (h : (g.get n).allowlisted = false) :
    ruleDeriveType g cx t inNodes n = { const := blocklistedImpl g n } := by
  unfold ruleDeriveType
  simp [h]

theorem C08_blocklisted_opaque_is_no (g : IR) (cx : DeriveCtx) (t : DeriveTrait) (inNodes : Nat → Bool) (n : Nat)
    (h : (g.get n).allowlisted = false) (hs : ((g.get n).hasName && (g.get n).stdint) = false) :
    (ruleDeriveType g cx t inNodes n).const = 2 := by
  rw [C08_not_allowlisted_first g cx t inNodes n h]
  simp [blocklistedImpl, hs]

end BindgenModel.Analyses

namespace BindgenModel.C10
open BindgenModel.IR BindgenModel.Analyses

/-- Known finding `opaque_empty_base_counted`.  `struct E {}; struct D : E { int x; };` — `CompInfo::codegen`
leaves a base out of the emitted record when the sizedness analysis calls it zero-sized.  For the empty record
as it is the answer is `ZeroSized` (0): no `_base` member, as the empty-base optimisation wants.  Made opaque,
the rule looks at the layout libclang reports for an empty class (1 byte) instead of at the members and answers
`NonZeroSized` (2): the derived record gets a one-byte `_base` and no longer has the C++ layout. -/
def emptyBase (isOp : Bool) : IR :=
  { items := #[{}, { id := 1, kind := .type, tk := .comp, allowlisted := true, isOpaque := isOp, layout := some (1, 1) },
               { id := 2, kind := .type, tk := .comp, allowlisted := true, layout := some (4, 4), bases := [(1, false)],
                 fields := [.inl 3], edges := [(1, .baseMember), (3, .field)] },
               { id := 3, kind := .type, tk := .int, allowlisted := true, layout := some (4, 4) }] }

theorem C10_opaque_empty_base_is_sized :
    ((sizednessInstance (emptyBase false) fun _ => false).solve 4).getD 1 0 = 0 ∧
    ((sizednessInstance (emptyBase true) fun _ => false).solve 4).getD 1 0 = 2 := by decide

/-- what `Annotations::new` answers for a declaration: `own` = the annotation written on the declaration itself,
`fromBase` = the one libclang's parsed comment hands over from a base class / overridden method when the
declaration has no comment; `ownOnly` = the test found in the source -/
def annotationOf {α : Type} (ownOnly : Bool) (own fromBase : Option α) : Option α :=
  match own with
  | some a => some a
  | none => if ownOnly then none else fromBase

theorem C10_annotation_not_inherited {α : Type} (own b₁ b₂ : Option α) :
    annotationOf true own b₁ = annotationOf true own b₂ := by
  cases own <;> rfl

/-- without the test a `hide` on the base hides the derived class (defect repaired in /repo b0624bff) -/
theorem C10_annotation_leaked_without_test :
    annotationOf false (none : Option String) (some "hide") = some "hide" ∧
    annotationOf true (none : Option String) (some "hide") = none := ⟨rfl, rfl⟩

theorem C10_annotations_read_from_own_comment : BindgenModel.Generated.annotationsOwnCommentOnly = true := by decide

end BindgenModel.C10

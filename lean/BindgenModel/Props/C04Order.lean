import BindgenModel.Lemmas.Link
import BindgenModel.Generated.CodegenOrder
/-!
# C04 — the link-name decision is taken on the name the item is emitted under

`FnIn.canonical` of `Model/Link.lean` is the canonical name after the overload suffix, so the theorems about
`fnLinkAttr` speak about the source only if `Function::codegen` decides `link_name_attr` after it appended the suffix:
`C04_link_decided_on_suffixed_name` is that source obligation (regenerated `Generated/CodegenOrder.lean`).  The witness
of the other order (seeded changes C04-1 and C04-5): the second member `foo` of an overload set whose symbol is `foo` is
emitted as `foo1` without attribute and references the symbol `foo1`.
-/
namespace BindgenModel.Link
open BindgenModel.Generated

theorem C04_link_decided_on_suffixed_name : linkDecisionAfterOverloadSuffix = true := by decide

/-- `foo` -/
def nmFoo : Name := [102, 111, 111]

theorem C04_decision_before_suffix_binds_wrong_symbol :
    let decidedOn : FnIn := { name := nmFoo, canonical := nmFoo, mangled := some nmFoo, linkOverride := none, cc := .known .C }
    let emittedAs : Name := nmFoo ++ decimal 1
    fnLinkAttr decidedOn = .none ∧
    symbolReferenced .elf (.known .C) emittedAs (fnLinkAttr decidedOn) 0 ≠ nmFoo := by decide +kernel

theorem C04_decision_after_suffix_keeps_symbol :
    let f : FnIn := { name := nmFoo, canonical := nmFoo ++ decimal 1, mangled := some nmFoo, linkOverride := none, cc := .known .C }
    symbolReferenced .elf (.known .C) f.canonical (fnLinkAttr f) 0 = nmFoo := by decide +kernel

end BindgenModel.Link

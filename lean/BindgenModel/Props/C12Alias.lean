import BindgenModel.Model.AliasChain
/-!
# C12 — typedef chains stay acyclic (no stack overflow in `safe_canonical_type`)

`C12_alias_step_acyclic`: one construction by the Typedef arm keeps the alias / type-reference edges
acyclic, provided the typedef under construction has no outgoing edge yet (it is not in the context:
`resolve_item_fallible` answers `None`) and a chain leading back to it is shorter than the number of
items the walk looks at.  `C12_alias_history_acyclic` lifts it to every history of constructions
(`acyclic_empty`: the context a history starts from).  The first hypothesis describes the situation in
the code; the proof does not use it.  The second is needed: with the direct self-reference test alone
the history of corpus/C12/alias_ring.hpp closes a cycle (`C12_alias_unguarded_ring_cycles`, the defect
repaired in /repo fe19af74), and a walk that looks at too few items misses a long chain
(`C12_alias_bound_needed`).
`C12_canonical_walk_ends`: on an acyclic context whose edges stay inside `n` items, following the edges
from any item stops within `n + 1` steps (the recursion depth of `safe_canonical_type`).
Not covered: edges closed later by `resolve_typerefs` (an `UnresolvedTypeRef` becoming
`ResolvedTypeRef`); the theorems speak about the edges present when each typedef is built.
-/
namespace BindgenModel.AliasChain
open BindgenModel.Generated

theorem iter_succ (c : Ctx) (k n : Nat) : iter c (k + 1) n = (c n).bind (iter c k) := by
  cases h : c n <;> simp [iter, h]

theorem iter_succ_eq_some {c : Ctx} {k n t : Nat} :
    iter c (k + 1) n = some t ↔ ∃ m, c n = some m ∧ iter c k m = some t := by
  rw [iter_succ, Option.bind_eq_some_iff]

theorem iter_add (c : Ctx) (a b n : Nat) : iter c (a + b) n = (iter c a n).bind (iter c b) := by
  induction a generalizing n with
  | zero => simp [iter]
  | succ a ih =>
    rw [Nat.add_right_comm, iter_succ, iter_succ, Option.bind_assoc]
    exact congrArg _ (funext ih)

theorem iter_cycle_rotate {c : Ctx} {k j n m : Nat} (hk : iter c k n = some n) (hj : iter c j n = some m) :
    iter c k m = some m := by
  have h := iter_add c j k n
  rw [Nat.add_comm, iter_add, hk, hj] at h
  exact h.symm.trans hj

theorem reachesWithin_of_iter {c : Ctx} {t k b n : Nat} (h : iter c k n = some t) (hb : k < b) :
    reachesWithin c t b n = true := by
  induction b generalizing k n with
  | zero => omega
  | succ b ih =>
    unfold reachesWithin
    split
    · rfl
    next hn =>
      cases k with
      | zero => exact absurd (Option.some.inj h) hn
      | succ k =>
        obtain ⟨m, hc, h⟩ := iter_succ_eq_some.mp h
        rw [hc]
        exact ih h (by omega)

def withEdge (c : Ctx) (id inner : Nat) : Ctx := fun n => if n = id then some inner else c n

theorem iter_withEdge {c : Ctx} {id inner k n m : Nat} (h : iter (withEdge c id inner) k n = some m) :
    iter c k n = some m ∨ ∃ j, j < k ∧ iter c j n = some id ∧ iter (withEdge c id inner) j n = some id := by
  induction k generalizing n with
  | zero => exact .inl h
  | succ k ih =>
    by_cases hn : n = id
    · exact .inr ⟨0, by omega, congrArg some hn, congrArg some hn⟩
    · have hw : withEdge c id inner n = c n := if_neg hn
      obtain ⟨n', hc, h⟩ := iter_succ_eq_some.mp h
      rcases ih h with h' | ⟨j, hj, ho, hw'⟩
      · exact .inl (iter_succ_eq_some.mpr ⟨n', hw ▸ hc, h'⟩)
      · exact .inr ⟨j + 1, by omega, iter_succ_eq_some.mpr ⟨n', hw ▸ hc, ho⟩, iter_succ_eq_some.mpr ⟨n', hc, hw'⟩⟩

theorem withEdge_acyclic {c : Ctx} {id inner : Nat} (hac : Acyclic c) (hno : ∀ k, iter c k inner ≠ some id) :
    Acyclic (withEdge c id inner) := by
  intro n k hk hcyc
  rcases iter_withEdge hcyc with hold | ⟨j, -, -, hj⟩
  · exact hac n k hk hold
  · -- the cycle visits `id`, so `k` steps from `id` lead back to `id`; the first of them is `id → inner`
    have hrot := iter_cycle_rotate hcyc hj
    obtain ⟨k', rfl⟩ : ∃ k', k = k' + 1 := ⟨k - 1, by omega⟩
    have hid : withEdge c id inner id = some inner := if_pos rfl
    rw [iter_succ, hid] at hrot
    rcases iter_withEdge hrot with hold | ⟨j, -, hold, -⟩
    · exact hno k' hold
    · exact hno j hold

theorem C12_alias_step_acyclic (bound : Nat) (c : Ctx) (id inner : Nat) (hac : Acyclic c)
    (hfresh : c id = none) (hshort : ∀ k, iter c k inner = some id → k < bound) :
    Acyclic (addTypedef true bound c id inner) := by
  have _ := hfresh -- unused: the argument is the same when the new edge replaces an old one
  unfold addTypedef
  cases hr : reachesWithin c id bound inner
  · -- a chain from `inner` back to `id` is short by hypothesis, so the walk would have seen it
    refine withEdge_acyclic hac fun k hk => ?_
    rw [reachesWithin_of_iter hk (hshort k hk)] at hr
    cases hr
  · exact hac

def HistoryOk (bound : Nat) : List (Nat × Nat) → Ctx → Prop
  | [], _ => True
  | (id, inner) :: rest, c =>
    c id = none ∧ (∀ k, iter c k inner = some id → k < bound) ∧ HistoryOk bound rest (addTypedef true bound c id inner)

theorem C12_alias_history_acyclic (bound : Nat) (h : List (Nat × Nat)) (c : Ctx) (hac : Acyclic c)
    (hok : HistoryOk bound h c) : Acyclic (build true bound h c) := by
  induction h generalizing c with
  | nil => exact hac
  | cons p rest ih =>
    obtain ⟨hf, hs, hrest⟩ := hok
    exact ih _ (C12_alias_step_acyclic bound c p.1 p.2 hac hf hs) hrest

theorem acyclic_empty : Acyclic (fun _ => none) := by
  intro n k hk
  cases k with
  | zero => omega
  | succ k => simp [iter]

/-- source obligation (regenerated `Generated/AliasGuard.lean`): the arm walks the chain -/
theorem C12_alias_guard_in_source : aliasGuardPresent = true ∧ 0 < aliasGuardBound := by decide

/-- with the guard and the bound extracted from the source, the history of corpus/C12/alias_ring.hpp
leaves `Outer` (12) without an edge (the opaque fallback) and `Inner` (13) pointing to it -/
theorem C12_alias_ring_now :
    (build aliasGuardPresent aliasGuardBound ringHistory (fun _ => none)) 12 = none ∧
    (build aliasGuardPresent aliasGuardBound ringHistory (fun _ => none)) 13 = some 12 := by decide

theorem C12_alias_unguarded_ring_cycles :
    iter (build false 0 ringHistory (fun _ => none)) 2 12 = some 12 := by decide

theorem C12_alias_bound_needed :
    iter (build true 1 ringHistory (fun _ => none)) 2 12 = some 12 := by decide

/-! ## the consumer: how deep `safe_canonical_type` recurses -/

/-- `none` = still going when the fuel ran out -/
def walkEnd (c : Ctx) : Nat → Nat → Option Nat
  | 0, _ => none
  | fuel + 1, n => match c n with
    | none => some n
    | some m => walkEnd c fuel m

def visited (c : Ctx) : Nat → Nat → List Nat
  | 0, _ => []
  | k + 1, n => n :: (match c n with | none => [] | some m => visited c k m)

theorem mem_visited_succ {c : Ctx} {x k n : Nat} :
    x ∈ visited c (k + 1) n ↔ x = n ∨ ∃ m, c n = some m ∧ x ∈ visited c k m := by
  cases hc : c n <;> simp [visited, hc]

theorem iter_of_mem_visited {c : Ctx} {x k n : Nat} (h : x ∈ visited c k n) : ∃ i, iter c i n = some x := by
  induction k generalizing n with
  | zero => cases h
  | succ k ih =>
    rcases mem_visited_succ.mp h with rfl | ⟨m, hc, h⟩
    · exact ⟨0, rfl⟩
    · obtain ⟨i, hi⟩ := ih h
      exact ⟨i + 1, iter_succ_eq_some.mpr ⟨m, hc, hi⟩⟩

theorem visited_nodup {c : Ctx} (hac : Acyclic c) (k n : Nat) : (visited c k n).Nodup := by
  induction k generalizing n with
  | zero => exact List.nodup_nil
  | succ k ih =>
    cases hc : c n with
    | none => simp [visited, hc]
    | some m =>
      simp only [visited, hc, List.nodup_cons]
      refine ⟨fun h => ?_, ih m⟩
      obtain ⟨i, hi⟩ := iter_of_mem_visited h
      exact hac n (i + 1) (by omega) (iter_succ_eq_some.mpr ⟨m, hc, hi⟩)

theorem visited_lt {c : Ctx} {b k n x : Nat} (hclosed : ∀ x y, c x = some y → y < b) (hn : n < b)
    (h : x ∈ visited c k n) : x < b := by
  induction k generalizing n with
  | zero => cases h
  | succ k ih =>
    rcases mem_visited_succ.mp h with rfl | ⟨m, hc, h⟩
    · exact hn
    · exact ih (hclosed n m hc) h

theorem length_visited_of_walkEnd_none {c : Ctx} {k n : Nat} (h : walkEnd c k n = none) :
    (visited c k n).length = k := by
  induction k generalizing n with
  | zero => rfl
  | succ k ih =>
    cases hc : c n with
    | none => simp [walkEnd, hc] at h
    | some m => simpa [visited, hc] using ih (by simpa [walkEnd, hc] using h)

theorem C12_canonical_walk_ends (c : Ctx) (n : Nat) (hac : Acyclic c)
    (hclosed : ∀ a b, c a = some b → b < n) (s : Nat) (hs : s < n) :
    walkEnd c (n + 1) s ≠ none := by
  intro hnone
  -- pigeonhole: a walk still going would have visited `n + 1` different items below `n`
  have hle := (visited_nodup hac (n + 1) s).length_le_of_subset (l₂ := List.range n)
    (fun x hx => List.mem_range.mpr (visited_lt hclosed hs hx))
  rw [length_visited_of_walkEnd_none hnone, List.length_range] at hle
  omega

/-- on a concrete context the chain bound of `HistoryOk` is checked by running `walkEnd` -/
theorem lt_of_walkEnd_of_iter {c : Ctx} {e m b k n : Nat} (hw : walkEnd c b n = some e)
    (hi : iter c k n = some m) : k < b := by
  induction b generalizing k n with
  | zero => cases hw
  | succ b ih =>
    cases k with
    | zero => omega
    | succ k =>
      obtain ⟨n', hc, hi⟩ := iter_succ_eq_some.mp hi
      rw [walkEnd, hc] at hw
      exact Nat.succ_lt_succ (ih hw hi)

example : HistoryOk aliasGuardBound ringHistory (fun _ => none) :=
  ⟨rfl, fun _ => lt_of_walkEnd_of_iter (e := 12) (by decide), by decide,
    fun _ => lt_of_walkEnd_of_iter (e := 12) (by decide), trivial⟩

example : walkEnd (build aliasGuardPresent aliasGuardBound ringHistory (fun _ => none)) 15 13 = some 12 := by decide

end BindgenModel.AliasChain

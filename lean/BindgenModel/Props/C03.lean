import BindgenModel.Lemmas.BitfieldUnit
import BindgenModel.Model.BitfieldAlloc
/-!
# C03 — bit-field getters, setters and constructors agree bit-for-bit with C

About `Model/BitfieldUnit.lean` (the model of `bindgen/codegen/bitfield_unit.rs` and of the accessor cast chain) and, in
the last part, `Model/BitfieldAlloc.lean` (`bitfields_to_allocation_units`).  The theorems quantify over every storage
length, bit offset, width ≤ 64 and value; nothing is bounded.

The proofs force the hypothesis `w + off % 8 ≤ 64` (`Fits`): outside it (a field whose shifted extent exceeds 64 bits,
e.g. a 64-bit field at bit 4 of a packed struct) the real code shifts a `u64` by 64; `C03_fails_on_shift_gt_64_*` are
witnesses of the failure, and `C03_dbgPanics_iff` says a checked build panics exactly there.
-/
namespace BindgenModel.BitfieldUnit

def Fits (off w : Nat) : Prop := w + off % 8 ≤ 64
instance (off w : Nat) : Decidable (Fits off w) := by unfold Fits; infer_instance

theorem specGetNat_lt (s : List Byte) (off w : Nat) : specGetNat s off w < 2 ^ w := by
  induction w with
  | zero => simp [specGetNat]
  | succ w ih =>
    rw [specGetNat, Nat.two_pow_succ]
    split <;> omega

theorem specGetNat_testBit (s : List Byte) (off w i : Nat) :
    (specGetNat s off w).testBit i = (decide (i < w) && bitAt s (off + i)) := by
  induction w with
  | zero => simp [specGetNat]
  | succ w ih =>
    -- the new bit sits above everything accumulated so far
    have e : specGetNat s off (w + 1) = 2 ^ w * (bitAt s (off + w)).toNat + specGetNat s off w := by
      rw [specGetNat, Nat.add_comm]
      cases bitAt s (off + w) <;> simp
    rw [e, Nat.testBit_two_pow_mul_add _ (specGetNat_lt s off w), ih, Nat.testBit_bool_toNat]
    rcases Nat.lt_trichotomy i w with h | rfl | h
    · simp [h, Nat.lt_succ_of_lt h]
    · simp
    · have h' : ¬ i < w ∧ ¬ i < w + 1 ∧ i - w ≠ 0 := by omega
      simp [h']

theorem specGet_bit (s : List Byte) (off w i : Nat) (hi : i < 64) :
    (specGet s off w).getLsbD i = (decide (i < w) && bitAt s (off + i)) := by
  unfold specGet
  rw [BitVec.getLsbD_ofNat, specGetNat_testBit, decide_eq_true hi, Bool.true_and]

theorem C03_get_bit (s : List Byte) (off w : Nat) (hfit : Fits off w) (i : Nat) :
    (get s off w).getLsbD i = (decide (i < w) && bitAt s (off + i)) :=
  getW_bit 64 (by decide) s off w hfit i

theorem C03_get_eq_spec (s : List Byte) (off w : Nat) (hw : w ≤ 64) (hfit : Fits off w) :
    get s off w = specGet s off w := by
  apply BitVec.eq_of_getLsbD_eq
  intro i hi
  rw [specGet_bit s off w i hi, C03_get_bit s off w hfit]

theorem set_length (s : List Byte) (off w : Nat) (v : BitVec 64) :
    (set s off w v).length = s.length :=
  setW_length 64 s off w v

/-- `specSetBit` unfolded: the form in which the setter laws rewrite. -/
theorem bitAt_set (s : List Byte) (off w : Nat) (v : BitVec 64) (hfit : Fits off w)
    (hin : (off + w + 7) / 8 ≤ s.length) (j : Nat) :
    bitAt (set s off w v) j = if off ≤ j ∧ j < off + w then v.getLsbD (j - off) else bitAt s j :=
  setW_bit 64 (by decide) s off w v hfit hin j

theorem C03_set_eq_spec (s : List Byte) (off w : Nat) (v : BitVec 64) (hfit : Fits off w)
    (hin : (off + w + 7) / 8 ≤ s.length) :
    (set s off w v).length = s.length ∧ ∀ j, bitAt (set s off w v) j = specSetBit s off w v j :=
  ⟨set_length s off w v, bitAt_set s off w v hfit hin⟩

theorem C03_set_frame (s : List Byte) (off w : Nat) (v : BitVec 64) (hfit : Fits off w)
    (hin : (off + w + 7) / 8 ≤ s.length) (j : Nat) (hj : j < off ∨ off + w ≤ j) :
    bitAt (set s off w v) j = bitAt s j := by
  rw [bitAt_set s off w v hfit hin, if_neg (by omega)]

theorem C03_get_set (s : List Byte) (off w : Nat) (v : BitVec 64) (hfit : Fits off w)
    (hin : (off + w + 7) / 8 ≤ s.length) (i : Nat) (hi : i < 64) :
    (get (set s off w v) off w).getLsbD i = (decide (i < w) && v.getLsbD i) := by
  rw [C03_get_bit _ off w hfit, bitAt_set s off w v hfit hin]
  refine decide_and_congr fun h => ?_
  rw [if_pos (by omega), Nat.add_sub_cancel_left]

theorem C03_get_set_other (s : List Byte) (off w off' w' : Nat) (v : BitVec 64)
    (hfit : Fits off w) (hfit' : Fits off' w') (hin : (off + w + 7) / 8 ≤ s.length)
    (hdis : off' + w' ≤ off ∨ off + w ≤ off') :
    get (set s off w v) off' w' = get s off' w' := by
  apply BitVec.eq_of_getLsbD_eq
  intro i hi
  rw [C03_get_bit _ off' w' hfit', C03_get_bit _ off' w' hfit']
  exact decide_and_congr fun h => C03_set_frame s off w v hfit hin (off' + i) (by omega)

/-! Algebraic laws of the setter: each is `bitAt_set` on both sides and a fact about nested `if`s. -/

theorem C03_set_truncates (s : List Byte) (off w : Nat) (v v' : BitVec 64) (hfit : Fits off w)
    (hin : (off + w + 7) / 8 ≤ s.length) (hv : ∀ i, i < w → v.getLsbD i = v'.getLsbD i) (j : Nat) :
    bitAt (set s off w v) j = bitAt (set s off w v') j := by
  rw [bitAt_set s off w v hfit hin, bitAt_set s off w v' hfit hin]
  split
  · exact hv _ (by omega)
  · rfl

theorem C03_set_set (s : List Byte) (off w : Nat) (v₁ v₂ : BitVec 64) (hfit : Fits off w)
    (hin : (off + w + 7) / 8 ≤ s.length) (j : Nat) :
    bitAt (set (set s off w v₁) off w v₂) j = bitAt (set s off w v₂) j := by
  rw [bitAt_set (set s off w v₁) off w v₂ hfit (by rwa [set_length]), bitAt_set s off w v₂ hfit hin]
  split
  · rfl
  · rename_i h
    rw [bitAt_set s off w v₁ hfit hin, if_neg h]

theorem C03_set_get_id (s : List Byte) (off w : Nat) (hfit : Fits off w)
    (hin : (off + w + 7) / 8 ≤ s.length) (j : Nat) :
    bitAt (set s off w (get s off w)) j = bitAt s j := by
  rw [bitAt_set s off w _ hfit hin]
  split
  · rename_i h
    obtain ⟨i, rfl⟩ : ∃ i, j = off + i := ⟨j - off, by omega⟩
    rw [Nat.add_sub_cancel_left, C03_get_bit s off w hfit, decide_eq_true (by omega), Bool.true_and]
  · rfl

theorem C03_set_comm (s : List Byte) (off w off' w' : Nat) (v v' : BitVec 64)
    (hfit : Fits off w) (hfit' : Fits off' w') (hin : (off + w + 7) / 8 ≤ s.length)
    (hin' : (off' + w' + 7) / 8 ≤ s.length) (hdis : off' + w' ≤ off ∨ off + w ≤ off') (j : Nat) :
    bitAt (set (set s off w v) off' w' v') j = bitAt (set (set s off' w' v') off w v) j := by
  rw [bitAt_set (set s off w v) off' w' v' hfit' (by rwa [set_length]), bitAt_set s off w v hfit hin,
    bitAt_set (set s off' w' v') off w v hfit (by rwa [set_length]), bitAt_set s off' w' v' hfit' hin']
  by_cases h : off ≤ j ∧ j < off + w
  · have h' : ¬ (off' ≤ j ∧ j < off' + w') := by omega
    simp only [if_pos h, if_neg h']
  · simp only [if_neg h]

/-! The const-generic forms (`get_const`, `set_const`, `raw_*_const`) for 32- and 64-bit `usize`.  Of `wb` the proofs use
only that it is a multiple of 8: `getW_bit` and `setW_bit` do not depend on the accumulator width. -/

theorem C03_getConst_eq_get (wb : Nat) (hwb : wb = 32 ∨ wb = 64) (s : List Byte) (off w : Nat)
    (hfit : Fits off w) : getConst wb s off w = get s off w := by
  have h8 : wb % 8 = 0 := by rcases hwb with rfl | rfl <;> rfl
  unfold getConst
  split
  · rename_i h
    subst h
    simp [get, getW]
  · split
    · rename_i hle
      apply BitVec.eq_of_getLsbD_eq
      intro i hi
      rw [C03_get_bit s off w hfit, BitVec.getLsbD_setWidth, getW_bit wb h8 s off w hle, decide_eq_true hi,
        Bool.true_and]
    · rfl

theorem C03_setConst_eq_set (wb : Nat) (hwb : wb = 32 ∨ wb = 64) (s : List Byte) (off w : Nat)
    (v : BitVec 64) (hfit : Fits off w) (hin : (off + w + 7) / 8 ≤ s.length) :
    (setConst wb s off w v).length = (set s off w v).length ∧
    ∀ j, bitAt (setConst wb s off w v) j = bitAt (set s off w v) j := by
  have h8 : wb % 8 = 0 := by rcases hwb with rfl | rfl <;> rfl
  unfold setConst
  split
  · rename_i h
    subst h
    simp [set, setW]
  · split
    · rename_i hle
      refine ⟨by rw [setW_length, set_length], fun j => ?_⟩
      rw [setW_bit wb h8 s off w _ hle hin j, bitAt_set s off w v hfit hin]
      split
      · -- `j - off < w ≤ wb`: the truncation to `usize` loses nothing of the field
        rename_i h
        rw [BitVec.getLsbD_setWidth, decide_eq_true (Nat.lt_of_lt_of_le (Nat.sub_lt_left_of_lt_add h.1 h.2)
          (Nat.le_of_add_right_le hle)), Bool.true_and]
      · rfl
    · exact ⟨rfl, fun _ => rfl⟩

def covers (j : Nat) (fv : Field × BitVec 64) : Bool :=
  decide (fv.1.off ≤ j ∧ j < fv.1.off + fv.1.width)

def disjoint (a b : Field) : Prop := a.off + a.width ≤ b.off ∨ b.off + b.width ≤ a.off

theorem foldl_set_length (fs : List (Field × BitVec 64)) (s : List Byte) :
    (fs.foldl (fun s fv => set s fv.1.off fv.1.width fv.2) s).length = s.length := by
  induction fs generalizing s with
  | nil => rfl
  | cons x xs ih => rw [List.foldl_cons, ih, set_length]

theorem foldl_set_bit (fs : List (Field × BitVec 64)) (s : List Byte)
    (hfit : ∀ fv ∈ fs, Fits fv.1.off fv.1.width)
    (hin : ∀ fv ∈ fs, (fv.1.off + fv.1.width + 7) / 8 ≤ s.length)
    (hdis : fs.Pairwise (fun a b => disjoint a.1 b.1)) (j : Nat) :
    (∀ fv ∈ fs, covers j fv = true →
      bitAt (fs.foldl (fun s fv => set s fv.1.off fv.1.width fv.2) s) j = fv.2.getLsbD (j - fv.1.off)) ∧
    ((∀ fv ∈ fs, covers j fv = false) →
      bitAt (fs.foldl (fun s fv => set s fv.1.off fv.1.width fv.2) s) j = bitAt s j) := by
  induction fs generalizing s with
  | nil => exact ⟨fun _ h => (nomatch h), fun _ => rfl⟩
  | cons x xs ih =>
    obtain ⟨hfx, hfits⟩ := List.forall_mem_cons.mp hfit
    obtain ⟨hix, hins⟩ := List.forall_mem_cons.mp hin
    obtain ⟨hdx, hdiss⟩ := List.pairwise_cons.mp hdis
    obtain ⟨ih1, ih2⟩ := ih (set s x.1.off x.1.width x.2) hfits (by rwa [set_length]) hdiss
    have hx := bitAt_set s x.1.off x.1.width x.2 hfx hix j
    simp only [List.foldl_cons, List.forall_mem_cons]
    refine ⟨⟨fun hc => ?_, ih1⟩, fun hno => ?_⟩
    · -- `x` is stored first and no later field touches bit `j`
      have hlater : ∀ y ∈ xs, covers j y = false := by
        intro y hy
        have := hdx y hy
        simp only [covers, disjoint, decide_eq_true_eq, decide_eq_false_iff_not] at hc this ⊢
        omega
      rw [ih2 hlater, hx, if_pos (of_decide_eq_true hc)]
    · rw [ih2 hno.2, hx, if_neg (of_decide_eq_false hno.1)]

/-- The constructor assembles a unit in which every field's getter returns its argument truncated to the field width,
and every bit not covered by a field is zero. -/
theorem C03_ctor (n : Nat) (fs : List (Field × BitVec 64))
    (hfit : ∀ fv ∈ fs, Fits fv.1.off fv.1.width)
    (hin : ∀ fv ∈ fs, (fv.1.off + fv.1.width + 7) / 8 ≤ n)
    (hdis : fs.Pairwise (fun a b => disjoint a.1 b.1)) :
    (ctor n fs).length = n ∧
    (∀ fv ∈ fs, ∀ i, i < 64 →
      (get (ctor n fs) fv.1.off fv.1.width).getLsbD i = (decide (i < fv.1.width) && fv.2.getLsbD i)) ∧
    (∀ j, (∀ fv ∈ fs, covers j fv = false) → bitAt (ctor n fs) j = false) := by
  have hzero : ∀ j, bitAt (List.replicate n (0 : Byte)) j = false := by
    intro j
    rw [bitAt, List.getD_eq_getElem?_getD, List.getElem?_replicate]
    split <;> simp
  have hbit := foldl_set_bit fs (List.replicate n 0) hfit (by simpa using hin) hdis
  refine ⟨by rw [ctor, foldl_set_length, List.length_replicate], fun fv hfv i hi => ?_, fun j hj => ?_⟩
  · rw [C03_get_bit _ _ _ (hfit fv hfv)]
    refine decide_and_congr fun h => ?_
    rw [ctor, (hbit _).1 fv hfv (by simp [covers, h]), Nat.add_sub_cancel_left]
  · rw [ctor, (hbit j).2 hj, hzero]

/-- The region predicate of known finding `bf_signed_narrow`. -/
def regionSignedNarrow (signed : Bool) (tsz w : Nat) : Bool := signed && decide (0 < w) && decide (w < 8 * tsz)

theorem getter_eq_C_of_not_signedNarrow (signed : Bool) (tsz : Nat) (s : List Byte) (off w : Nat)
    (hfit : Fits off w) (hreg : regionSignedNarrow signed tsz w = false) :
    rustGetter tsz s off w = cRead signed tsz s off w := by
  unfold rustGetter cRead
  rw [C03_get_eq_spec s off w (Nat.le_of_add_right_le hfit) hfit]
  simp only
  split
  · -- C's sign extension adds `2^(8·tsz) - 2^w`, which is 0 for a field as wide as the type
    rename_i h
    simp only [Bool.and_eq_true, decide_eq_true_eq] at h
    simp [regionSignedNarrow, h.1.1, h.1.2] at hreg
    rw [Nat.sub_eq_zero_of_le (Nat.pow_le_pow_right (by decide) hreg), Nat.add_zero]
  · rfl

theorem C03_getter_eq_C_unsigned (tsz : Nat) (s : List Byte) (off w : Nat) (hw : w ≤ 64)
    (hfit : Fits off w) : rustGetter tsz s off w = cRead false tsz s off w :=
  getter_eq_C_of_not_signedNarrow false tsz s off w hfit rfl

theorem C03_getter_eq_C_fullwidth (signed : Bool) (tsz : Nat) (s : List Byte) (off : Nat)
    (hw : 8 * tsz ≤ 64) (hfit : Fits off (8 * tsz)) :
    rustGetter tsz s off (8 * tsz) = cRead signed tsz s off (8 * tsz) :=
  getter_eq_C_of_not_signedNarrow signed tsz s off _ hfit (by simp [regionSignedNarrow])

/-- Region `bf_signed_narrow`: for a signed declared type and a field narrower than it, the Rust getter zero-extends
where C sign-extends.  `struct { int x:3; }`, `x = -1`: Rust reads 7, C reads 0xFFFFFFFF. -/
theorem C03_fails_on_signed_narrow :
    rustGetter 4 [0x07#8, 0, 0, 0] 0 3 = 7 ∧ cRead true 4 [0x07#8, 0, 0, 0] 0 3 = 4294967295 := by
  decide

/-- a build with overflow checks panics exactly outside `Fits` -/
theorem C03_dbgPanics_iff (off w : Nat) (hw : 0 < w) : dbgPanics off w = true ↔ ¬ Fits off w := by
  unfold dbgPanics Fits
  simp
  omega

/-- 9-byte unit, 64-bit field at bit 4, wrapping (release) arithmetic: the ninth byte is OR-ed into the low bits and
the top nibble is lost. -/
theorem C03_fails_on_shift_gt_64_get :
    get [0xF0#8, 0xFF, 0xFF, 0xFF, 0xFF, 0xFF, 0xFF, 0xFF, 0x05] 4 64
      ≠ specGet [0xF0#8, 0xFF, 0xFF, 0xFF, 0xFF, 0xFF, 0xFF, 0xFF, 0x05] 4 64 := by
  decide

/-- Storing all-ones in that field does not set the low nibble of the last byte (C stores `…0f`). -/
theorem C03_fails_on_shift_gt_64_set :
    set [0#8, 0, 0, 0, 0, 0, 0, 0, 0] 4 64 (BitVec.allOnes 64)
      ≠ specSet [0#8, 0, 0, 0, 0, 0, 0, 0, 0] 4 64 (BitVec.allOnes 64) := by
  decide

/-- The region predicate of known finding `bf_shift_gt_64`. -/
def regionShiftGt64 (off w : Nat) : Bool := decide (0 < w) && decide (w + off % 8 > 64)

theorem regionShiftGt64_iff (off w : Nat) : regionShiftGt64 off w = true ↔ (0 < w ∧ ¬ Fits off w) := by
  unfold regionShiftGt64 Fits
  simp

/-! Big-endian targets: `getBE` / `setBE` are `get` / `set` on the object with every byte bit-reversed, the value
reversed within the field width. -/

theorem reverse_reverse8 (b : Byte) : b.reverse.reverse = b :=
  BitVec.reverse_reverse_eq

theorem bitAt_map_reverse (s : List Byte) (j : Nat) : bitAt (s.map BitVec.reverse) j = bitAtBE s j := by
  unfold bitAt bitAtBE
  rw [List.getD_eq_getElem?_getD, List.getD_eq_getElem?_getD, List.getElem?_map]
  cases s[j / 8]? with
  | none => simp
  | some b =>
    rw [Option.map_some, Option.getD_some, Option.getD_some, BitVec.getLsbD_reverse,
      BitVec.getMsbD_eq_getLsbD, decide_eq_true (Nat.mod_lt j (by decide)), Bool.true_and]

theorem reverse_ushiftRight_bit {W : Nat} (x : BitVec W) (w i : Nat) (hw : w ≤ W) :
    (x.reverse >>> (W - w)).getLsbD i = (decide (i < w) && x.getLsbD (w - 1 - i)) := by
  -- `W - 1 - (W - w + i) = W - (W - w) - 1 - i`, and `W - w + i < W ↔ i < W - (W - w)`
  rw [BitVec.getLsbD_ushiftRight, BitVec.getLsbD_reverse, BitVec.getMsbD_eq_getLsbD, Nat.sub_add_eq,
    Nat.sub_right_comm W 1]
  simp only [← Nat.lt_sub_iff_add_lt', Nat.sub_sub_self hw]

theorem C03_getBE_bit (s : List Byte) (off w i : Nat) (hw : w ≤ 64) (hfit : Fits off w) (hi : i < 64) :
    (getBE s off w).getLsbD i = (decide (i < w) && bitAtBE s (off + (w - 1 - i))) := by
  unfold getBE
  split
  · rename_i h
    subst h
    simp
  · rw [reverse_ushiftRight_bit _ w i hw]
    refine decide_and_congr fun hiw => ?_
    rw [C03_get_bit _ off w hfit, bitAt_map_reverse, decide_eq_true (show w - 1 - i < w by omega),
      Bool.true_and]

theorem map_reverse_length (s : List Byte) : (s.map BitVec.reverse).length = s.length := by simp

theorem C03_setBE_bit (s : List Byte) (off w : Nat) (v : BitVec 64) (hw : w ≤ 64) (hfit : Fits off w)
    (hin : (off + w + 7) / 8 ≤ s.length) (j : Nat) :
    bitAtBE (setBE s off w v) j =
      if off ≤ j ∧ j < off + w then v.getLsbD (w - 1 - (j - off)) else bitAtBE s j := by
  unfold setBE
  split
  · rename_i h
    subst h
    rw [if_neg (by omega)]
  · rename_i hw0
    rw [← bitAt_map_reverse, List.map_map,
      show (BitVec.reverse ∘ BitVec.reverse : Byte → Byte) = id from funext reverse_reverse8, List.map_id,
      bitAt_set _ off w _ hfit (by rwa [map_reverse_length]) j]
    split
    · rename_i h
      rw [reverse_ushiftRight_bit _ w _ hw, BitVec.getLsbD_and, lowMask_bit 64 w _ hw,
        decide_eq_true (Nat.sub_lt_left_of_lt_add h.1 h.2),
        decide_eq_true (Nat.lt_of_le_of_lt (Nat.sub_le _ _) (Nat.sub_one_lt hw0)), Bool.true_and, Bool.and_true]
    · exact bitAt_map_reverse s j

example : Fits 13 51 ∧ (13 + 51 + 7) / 8 ≤ [0xAB#8, 0xCD, 0xEF, 1, 2, 3, 4, 5].length := by decide
example : get (set [0xAB#8, 0xCD, 0xEF, 1, 2, 3, 4, 5] 13 51 0x123456789ABCD#64) 13 51
    = 0x123456789ABCD#64 := by decide
example : ctor 2 [(⟨0, 3⟩, 5#64), (⟨3, 9⟩, 0x1FF#64)] = [0xFD#8, 0x0F] := by decide
example : [(⟨0, 3⟩, 5#64), (⟨3, 9⟩, 0x1FF#64)].Pairwise
    (fun (a b : Field × BitVec 64) => disjoint a.1 b.1) := by
  simp [disjoint]

end BindgenModel.BitfieldUnit

/-! Allocation units: `offset_into_unit` against clang's offsets. -/
namespace BindgenModel.BitfieldAlloc

theorem foldl_offs (packed : Bool) (bfs : List RawBf) (s : St) (offOf : RawBf → Nat)
    (hoff : ∀ b ∈ bfs, b.off = some (offOf b)) (hs : s.unitBits ≠ 0)
    (hw : ∀ b ∈ bfs, 0 < b.width) :
    (bfs.foldl (stepBf packed) s).offs =
      s.offs ++ bfs.map (fun b => effOff packed b (offOf b) - s.start) := by
  induction bfs generalizing s with
  | nil => simp
  | cons b bs ih =>
    obtain ⟨hb, hoffs⟩ := List.forall_mem_cons.mp hoff
    obtain ⟨hwb, hws⟩ := List.forall_mem_cons.mp hw
    -- the unit stays open (`b.width` is positive) and keeps its start
    rw [List.foldl_cons, ih _ hoffs (Nat.ne_of_gt (Nat.add_pos_right _ hwb)) hws]
    simp [stepBf, hb, hs]

theorem allocRun_offs (packed : Bool) (b0 : RawBf) (bs : List RawBf) (offOf : RawBf → Nat)
    (hoff : ∀ b ∈ b0 :: bs, b.off = some (offOf b)) (hw : ∀ b ∈ b0 :: bs, 0 < b.width) :
    (allocRun packed (b0 :: bs)).offs =
      (b0 :: bs).map (fun b => effOff packed b (offOf b) - offOf b0) := by
  obtain ⟨hb0, hoffs⟩ := List.forall_mem_cons.mp hoff
  obtain ⟨hw0, hws⟩ := List.forall_mem_cons.mp hw
  rw [allocRun, List.foldl_cons,
    foldl_offs packed bs _ offOf hoffs (Nat.ne_of_gt (Nat.add_pos_right _ hw0)) hws]
  simp [stepBf, hb0]

/-- In a run of non-empty bit-fields whose clang offsets are known and non-decreasing and where the code never re-aligns
a field itself, every bit-field sits at `start_of_unit + offset_into_unit` = clang's offset. -/
theorem C03_alloc_offsets_match_clang_partial (packed : Bool) (b0 : RawBf) (bs : List RawBf)
    (offOf : RawBf → Nat) (hoff : ∀ b ∈ b0 :: bs, b.off = some (offOf b))
    (hw : ∀ b ∈ b0 :: bs, 0 < b.width) (hge : ∀ b ∈ b0 :: bs, offOf b0 ≤ offOf b)
    (hadj : ∀ b ∈ b0 :: bs, adjusts packed b = false) :
    (allocRun packed (b0 :: bs)).offs = (b0 :: bs).map (fun b => offOf b - offOf b0) ∧
    ∀ b ∈ b0 :: bs, offOf b0 + (offOf b - offOf b0) = offOf b := by
  refine ⟨?_, fun b hb => Nat.add_sub_of_le (hge b hb)⟩
  rw [allocRun_offs packed b0 bs offOf hoff hw]
  refine List.map_congr_left fun b hb => ?_
  have := hadj b hb
  rw [adjusts, hoff b hb] at this
  simp [effOff, this]

/-- Region `bf_offset_overridden`: `#pragma pack(8)`, `unsigned long long b1:1` at bit 16 followed by
`unsigned long b2:64`, which clang puts at bit 17: the code moves it to bit 64. -/
theorem C03_fails_on_offset_overridden :
    (allocRun false [⟨1, some 16, 8, 8, true⟩, ⟨64, some 17, 8, 8, true⟩]).offs = [0, 48] ∧
    16 + 48 ≠ 17 := by decide

/-- Inside a class template (no clang offsets) the code lays the run out itself, Itanium style: of
`unsigned lo:20, mid:12, hi:4`, `lo` and `mid` fill one 32-bit storage unit and `hi` starts the next. -/
theorem C03_alloc_template_example :
    (allocRun false [⟨20, none, 4, 4, true⟩, ⟨12, none, 4, 4, true⟩, ⟨4, none, 4, 4, true⟩]).offs
      = [0, 20, 32] := by decide

/-- The region predicate of known finding `bf_offset_overridden` (per run of bit-fields). -/
def regionOffsetOverridden (packed : Bool) (bfs : List RawBf) : Bool := bfs.any (adjusts packed)

example : adjusts false ⟨3, some 5, 4, 4, true⟩ = false ∧ adjusts false ⟨64, some 17, 8, 8, true⟩ = true := by decide

end BindgenModel.BitfieldAlloc

import BindgenModel.Generated.CodegenOrder
/-! # C17 — source obligation behind the include model

`Model/Includes.lean` takes the inclusion directives of the translation unit as given: they are what
`Item::parse` turns into `include_file` notifications and depfile entries.  libclang keeps them only when
the unit is parsed with `CXTranslationUnit_DetailedPreprocessingRecord`, so the model speaks about the
source only if `BindgenContext::new` passes that option whatever the code-generation configuration. -/
namespace BindgenModel.Includes
open BindgenModel.Generated

theorem C17_preprocessing_record_unconditional : preprocessingRecordUnconditional = true := by decide

end BindgenModel.Includes

import BindgenModel.Model.FnSig
import BindgenModel.Generated.FnSigGuards
/-!
# C04 — every function type gets the parameters and the convention of its own prototype

About `Model/FnSig.lean`; `Generated/FnSigGuards.lean` (regenerated) says that the guards the model calls
`guarded = true` are in `ir/function.rs` (`C04_signature_guards_in_source`).
-/
namespace BindgenModel.C04
open BindgenModel.FnSig BindgenModel.Generated

theorem zipLongest_length (cs : List Param) (ts : List Nat) :
    (zipLongest cs ts).length = max cs.length ts.length := by
  fun_induction zipLongest cs ts with
  | case1 ts => simp
  | case2 cs h => simp
  | case3 n x cs t ts ih => simp [ih]

theorem zipLongest_unzip (cs : List Param) (ts : List Nat) (h : cs.length = ts.length) :
    (zipLongest cs ts).map (·.1) = cs.map (·.1) ∧ (zipLongest cs ts).map (·.2) = ts := by
  fun_induction zipLongest cs ts with
  | case1 ts => simp [List.eq_nil_of_length_eq_zero h.symm]
  | case2 cs _ => simp [List.eq_nil_of_length_eq_zero h]
  | case3 n x cs t ts ih => simpa using ih (by simpa using h)

theorem fromTyAndCursor_guarded (t : List Nat) (cur : List Param) :
    fromTyAndCursor true (some t) cur =
      if cur.length = t.length then zipLongest cur t else t.map (none, ·) := by
  unfold fromTyAndCursor
  by_cases h : cur.length = t.length
  · simp [h]
  · simp [h, Ne.symm h, zipLongest]

theorem fromTyAndCursor_types (t : List Nat) (cur : List Param) :
    (fromTyAndCursor true (some t) cur).map (·.2) = t := by
  rw [fromTyAndCursor_guarded]
  split
  · exact (zipLongest_unzip cur t ‹_›).2
  · simp [Function.comp_def]

theorem args_guarded (s : Site) (t : List Nat) (h : s.typeArgs = some t) :
    args true s =
      if s.declLike then fromTyAndCursor true (some t) s.cursorArgs
      else if s.parmChildren = [] ∨ t.length ≠ s.parmChildren.length then fromTyAndCursor true (some t) []
      else s.parmChildren := by
  simp [args, h]

/-- Whatever the cursor offers: a declaration that nests function types offers the parameters of other levels. -/
theorem C04_arity_is_prototype (s : Site) (t : List Nat) (h : s.typeArgs = some t) :
    (args true s).length = t.length := by
  rw [args_guarded s t h]
  split
  · simpa using congrArg List.length (fromTyAndCursor_types t s.cursorArgs)
  · split
    · simpa using congrArg List.length (fromTyAndCursor_types t [])
    · next hc => exact (Decidable.not_not.1 (not_or.1 hc).2).symm

theorem C04_decl_types_are_prototype (s : Site) (t : List Nat) (h : s.typeArgs = some t)
    (hd : s.declLike = true) : (args true s).map (·.2) = t := by
  rw [args_guarded s t h, if_pos hd]
  exact fromTyAndCursor_types t s.cursorArgs

theorem C04_fallback_types_are_prototype (s : Site) (t : List Nat) (h : s.typeArgs = some t)
    (hd : s.declLike = false) (hne : t.length ≠ s.parmChildren.length) : (args true s).map (·.2) = t := by
  rw [args_guarded s t h, hd, if_neg Bool.false_ne_true, if_pos (.inr hne)]
  exact fromTyAndCursor_types t []

/-- The guard drops names only where they would be another level's. -/
theorem C04_decl_names_kept (s : Site) (t : List Nat) (h : s.typeArgs = some t) (hd : s.declLike = true)
    (hl : s.cursorArgs.length = t.length) : (args true s).map (·.1) = s.cursorArgs.map (·.1) := by
  rw [args_guarded s t h, if_pos hd, fromTyAndCursor_guarded, if_pos hl]
  exact (zipLongest_unzip s.cursorArgs t hl).1

/-- The returned pointer of `long (*get(int, int, int))(char)` (types: `int` = 1, `char` = 2): parsed with the cursor of
`get`, prototype `(char)`. -/
def returnedPointerSite : Site :=
  { typeArgs := some [2], declLike := true,
    cursorArgs := [(some "a", 1), (some "b", 1), (some "c", 1)], parmChildren := [] }

/-- The outer level of `typedef long (*(*td)(int, int, int))(char)`: the typedef's children are the parameters of both
levels. -/
def typedefOuterSite : Site :=
  { typeArgs := some [1, 1, 1], declLike := false, cursorArgs := [],
    parmChildren := [(none, 2), (none, 1), (none, 1), (none, 1)] }

/-- The rule without the guards (the defect repaired in /repo e1559044): the returned pointer gets three parameters, the
typedef's outer level four. -/
theorem C04_unguarded_wrong_arity :
    (args false returnedPointerSite).map (·.2) = [2, 1, 1] ∧
    (args false typedefOuterSite).map (·.2) = [2, 1, 1, 1] := by decide +kernel

theorem C04_guarded_now :
    (args true returnedPointerSite).map (·.2) = [2] ∧ (args true typedefOuterSite).map (·.2) = [1, 1, 1] := by decide +kernel

theorem C04_nested_level_keeps_its_convention (invalid tyCC cc : Nat) :
    callConv true invalid tyCC (some (cc, false)) = tyCC := by
  simp [callConv]

/-- The #549 work-around. -/
theorem C04_declared_level_takes_declaration_convention (invalid tyCC cc : Nat) (h : cc ≠ invalid) :
    callConv true invalid tyCC (some (cc, true)) = cc := by
  simp [callConv, h]

/-- Without the `same_level` test an `ms_abi` (say 2) returned pointer inside a "C" (1) declaration becomes "C". -/
theorem C04_unguarded_convention_leaks : callConv false 100 2 (some (1, false)) = 1 := by decide

theorem C04_signature_guards_in_source :
    fnSigCursorArgsGuard = true ∧ fnSigChildrenGuard = true ∧ fnSigSameLevelGuard = true := by decide

end BindgenModel.C04

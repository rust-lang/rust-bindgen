import BindgenModel.Lemmas.Reach
import BindgenModel.Lemmas.Regex
import BindgenModel.Generated.RootFilter
/-! # C09 — allow-listing yields a self-contained, minimal, consistent subset

Model: `Model/Reach.lean` (the traversal and root selection of
`compute_allowlisted_and_codegen_items`) and `Model/Regex.lean` (`RegexSet`).  The theorems
hold for every finite graph, every root list, every blocklist and every edge predicate. -/
namespace BindgenModel.Reach
open BindgenModel.Generated BindgenModel.Regex

/-- what bindgen's `AssertNoDanglingItemsTraversal` asserts -/
def Graph.Closed (g : Graph) : Prop := ∀ v e, e ∈ g.out v → e.to ∈ g.nodes

theorem Graph.succ_mem {g : Graph} {adm : Edge → Bool} {v t : Nat} :
    t ∈ g.succ adm v ↔ ∃ e, e ∈ g.out v ∧ adm e = true ∧ e.to = t := by
  simp only [Graph.succ, List.mem_map, List.mem_filter, and_assoc]

theorem Graph.succ_mono {g : Graph} {adm adm' : Edge → Bool} (hadm : ∀ e, adm e = true → adm' e = true)
    (v t : Nat) (ht : t ∈ g.succ adm v) : t ∈ g.succ adm' v :=
  have ⟨e, he, ha, hto⟩ := Graph.succ_mem.mp ht
  Graph.succ_mem.mpr ⟨e, he, hadm e ha, hto⟩

def C09_statement : Prop :=
  ∀ (g : Graph) (adm : Edge → Bool) (bl : Nat → Bool) (roots : List Nat), g.Closed →
    ∃ ys, allowlistedTraversal (g.succ adm) bl (g.fuel roots) roots = some ys ∧
      ∀ x, x ∈ ys ↔ (ReachFrom (g.succ adm) roots x ∧ bl x = false)

theorem C09_fuel_suffices (g : Graph) (hc : g.Closed) (adm : Edge → Bool) (bl : Nat → Bool)
    (roots : List Nat) :
    (allowlistedTraversal (g.succ adm) bl (g.fuel roots) roots).isSome = true := by
  rw [allowlistedTraversal, Option.isSome_map]
  refine itemTraversal_isSome (g.succ adm) g.nodes roots fun v t ht => ?_
  obtain ⟨e, he, _, rfl⟩ := Graph.succ_mem.mp ht
  exact hc v e he

theorem C09_dfs_eq_reach (g : Graph) (adm : Edge → Bool) (bl : Nat → Bool) (fuel : Nat)
    (roots ys : List Nat) (h : allowlistedTraversal (g.succ adm) bl fuel roots = some ys) :
    ∀ x, x ∈ ys ↔ (ReachFrom (g.succ adm) roots x ∧ bl x = false) :=
  allowlistedTraversal_spec h

theorem C09_statement_holds : C09_statement := by
  intro g adm bl roots hc
  obtain ⟨ys, hys⟩ := Option.isSome_iff_exists.mp (C09_fuel_suffices g hc adm bl roots)
  exact ⟨ys, hys, allowlistedTraversal_spec hys⟩

/-- The traversal goes *through* blocklisted items: what a blocklisted item needs is yielded too. -/
theorem C09_closure_through_blocklisted (g : Graph) (adm : Edge → Bool) (bl : Nat → Bool) (fuel : Nat)
    (roots ys : List Nat) (h : allowlistedTraversal (g.succ adm) bl fuel roots = some ys)
    (u : Nat) (hu : ReachFrom (g.succ adm) roots u) (e : Edge) (he : e ∈ g.out u) (ha : adm e = true) :
    e.to ∈ ys ∨ bl e.to = true := by
  cases hb : bl e.to with
  | true => exact Or.inr rfl
  | false =>
    have hto : ReachFrom (g.succ adm) roots e.to := hu.step (Graph.succ_mem.mpr ⟨e, he, ha, rfl⟩)
    exact Or.inl ((allowlistedTraversal_spec h e.to).mpr ⟨hto, hb⟩)

theorem C09_minimal (g : Graph) (adm : Edge → Bool) (bl : Nat → Bool) (fuel : Nat)
    (roots ys : List Nat) (h : allowlistedTraversal (g.succ adm) bl fuel roots = some ys)
    (y : Nat) (hy : y ∈ ys) : ∃ r, r ∈ roots ∧ Reach (g.succ adm) r y :=
  ((allowlistedTraversal_spec h y).mp hy).1

theorem C09_closure (g : Graph) (adm : Edge → Bool) (bl : Nat → Bool) (fuel : Nat)
    (roots ys : List Nat) (h : allowlistedTraversal (g.succ adm) bl fuel roots = some ys)
    (u : Nat) (hu : u ∈ ys) (e : Edge) (he : e ∈ g.out u) (ha : adm e = true) :
    e.to ∈ ys ∨ bl e.to = true :=
  C09_closure_through_blocklisted g adm bl fuel roots ys h u (C09_minimal g adm bl fuel roots ys h u hu) e he ha

theorem C09_roots_included (g : Graph) (adm : Edge → Bool) (bl : Nat → Bool) (fuel : Nat)
    (roots ys : List Nat) (h : allowlistedTraversal (g.succ adm) bl fuel roots = some ys)
    (r : Nat) (hr : r ∈ roots) (hb : bl r = false) : r ∈ ys :=
  (allowlistedTraversal_spec h r).mpr ⟨⟨r, hr, Reach.refl r⟩, hb⟩

theorem C09_blocklist_wins (g : Graph) (adm : Edge → Bool) (bl : Nat → Bool) (fuel : Nat)
    (roots ys : List Nat) (h : allowlistedTraversal (g.succ adm) bl fuel roots = some ys)
    (x : Nat) (hb : bl x = true) : x ∉ ys :=
  fun hx => Bool.noConfusion (hb.symm.trans ((allowlistedTraversal_spec h x).mp hx).2)

theorem C09_monotone_in_roots (g : Graph) (adm : Edge → Bool) (bl : Nat → Bool) (fuel fuel' : Nat)
    (roots roots' ys ys' : List Nat) (hsub : ∀ r ∈ roots, r ∈ roots')
    (h : allowlistedTraversal (g.succ adm) bl fuel roots = some ys)
    (h' : allowlistedTraversal (g.succ adm) bl fuel' roots' = some ys') :
    ∀ x ∈ ys, x ∈ ys' :=
  fun _ hx => allowlistedTraversal_mono (fun _ _ => id) hsub h h' hx id

theorem C09_roots_as_set (g : Graph) (adm : Edge → Bool) (bl : Nat → Bool) (fuel fuel' : Nat)
    (roots roots' ys ys' : List Nat) (hsame : ∀ r, r ∈ roots ↔ r ∈ roots')
    (h : allowlistedTraversal (g.succ adm) bl fuel roots = some ys)
    (h' : allowlistedTraversal (g.succ adm) bl fuel' roots' = some ys') :
    ∀ x, x ∈ ys ↔ x ∈ ys' :=
  fun x => ⟨C09_monotone_in_roots g adm bl fuel fuel' roots roots' ys ys' (fun r => (hsame r).1) h h' x,
    C09_monotone_in_roots g adm bl fuel' fuel roots' roots ys' ys (fun r => (hsame r).2) h' h x⟩

/-- `bl` and `bl'` need not be related: the traversal goes through blocklisted items, so a blocklist
only filters what is yielded. -/
theorem C09_blocklist_removes_only_blocklisted (g : Graph) (adm : Edge → Bool) (bl bl' : Nat → Bool)
    (fuel fuel' : Nat) (roots ys ys' : List Nat)
    (h : allowlistedTraversal (g.succ adm) bl fuel roots = some ys)
    (h' : allowlistedTraversal (g.succ adm) bl' fuel' roots = some ys') (x : Nat) (hx : x ∈ ys)
    (hb' : bl' x = false) : x ∈ ys' :=
  allowlistedTraversal_mono (fun _ _ => id) (fun _ => id) h h' hx fun _ => hb'

theorem C09_monotone_in_edges (g : Graph) (adm adm' : Edge → Bool) (bl : Nat → Bool) (fuel fuel' : Nat)
    (roots ys ys' : List Nat) (hadm : ∀ e, adm e = true → adm' e = true)
    (h : allowlistedTraversal (g.succ adm) bl fuel roots = some ys)
    (h' : allowlistedTraversal (g.succ adm') bl fuel' roots = some ys') :
    ∀ x ∈ ys, x ∈ ys' :=
  fun _ hx => allowlistedTraversal_mono (Graph.succ_mono hadm) (fun _ => id) h h' hx id

/-! ### the whole of `compute_allowlisted_and_codegen_items` -/

theorem compute_nonrecursive {g : Graph} {o : Options} {items : List ItemInfo} {en bl : Nat → Bool}
    (hrec : o.recursive = false) :
    compute g o items en bl =
      (allowlistedTraversal (g.succ (Pred.onlyInnerTypeEdges.admits o.cfg en)) bl (g.fuel (roots o items))
        (roots o items)).map fun al => ⟨al, al⟩ := by
  simp only [compute, hrec, Bool.false_eq_true, if_false]
  cases allowlistedTraversal _ bl _ (roots o items) <;> rfl

theorem compute_recursive {g : Graph} {o : Options} {items : List ItemInfo} {en bl : Nat → Bool}
    (hrec : o.recursive = true) :
    compute g o items en bl =
      (allowlistedTraversal (g.succ (Pred.allEdges.admits o.cfg en)) bl (g.fuel (roots o items))
        (roots o items)).bind fun al =>
      (allowlistedTraversal (g.succ (Pred.codegenEdges.admits o.cfg en)) bl (g.fuel (roots o items))
        (roots o items)).map fun cg => ⟨al, cg⟩ := by
  simp only [compute, hrec, if_true]
  cases allowlistedTraversal (g.succ (Pred.allEdges.admits o.cfg en)) bl _ (roots o items) with
  | none => rfl
  | some al => cases allowlistedTraversal (g.succ (Pred.codegenEdges.admits o.cfg en)) bl _ (roots o items) <;> rfl

theorem C09_compute_isSome (g : Graph) (hc : g.Closed) (o : Options) (items : List ItemInfo)
    (en bl : Nat → Bool) : (compute g o items en bl).isSome = true := by
  have hsome := fun adm => C09_fuel_suffices g hc adm bl (roots o items)
  cases hrec : o.recursive with
  | false =>
    rw [compute_nonrecursive hrec, Option.isSome_map]
    exact hsome _
  | true =>
    obtain ⟨al, hal⟩ := Option.isSome_iff_exists.mp (hsome (Pred.allEdges.admits o.cfg en))
    rw [compute_recursive hrec, hal, Option.bind_some, Option.isSome_map]
    exact hsome _

theorem C09_codegen_subset_allowlisted (g : Graph) (o : Options) (items : List ItemInfo)
    (en bl : Nat → Bool) (s : Sets) (h : compute g o items en bl = some s) :
    ∀ x, x ∈ s.codegen → x ∈ s.allowlisted := by
  cases hrec : o.recursive with
  | false =>
    obtain ⟨al, _, rfl⟩ := Option.map_eq_some_iff.mp (compute_nonrecursive hrec ▸ h)
    exact fun _ => id
  | true =>
    obtain ⟨al, hal, h⟩ := Option.bind_eq_some_iff.mp (compute_recursive hrec ▸ h)
    obtain ⟨cg, hcg, rfl⟩ := Option.map_eq_some_iff.mp h
    -- `all_edges` admits whatever `codegen_edges` admits
    exact fun _ hx => allowlistedTraversal_mono (Graph.succ_mono fun _ _ => rfl) (fun _ => id) hcg hal hx id

/-- `--no-recursive-allowlist` -/
theorem C09_nonrecursive_codegen_eq (g : Graph) (o : Options) (items : List ItemInfo)
    (en bl : Nat → Bool) (s : Sets) (hrec : o.recursive = false)
    (h : compute g o items en bl = some s) : s.codegen = s.allowlisted := by
  obtain ⟨al, _, rfl⟩ := Option.map_eq_some_iff.mp (compute_nonrecursive hrec ▸ h)
  rfl

theorem C09_roots_mem (o : Options) (items : List ItemInfo) (x : Nat) :
    x ∈ roots o items ↔ ∃ it, it ∈ items ∧ it.enabled o = true ∧ rootFilter o it = true ∧ it.id = x := by
  simp only [roots, List.mem_reverse, List.mem_map, List.mem_filter, Bool.and_eq_true, and_assoc]

theorem C09_nothing_allowlisted_everything (o : Options) (it : ItemInfo)
    (h : (o.types.isEmpty && o.functions.isEmpty && o.vars.isEmpty && o.files.isEmpty && o.items.isEmpty) = true) :
    rootFilter o it = true := by
  rw [rootFilter, if_pos h]

/-! ### generated tables: what codegen mentions is traversed -/

/-- Every edge kind through which code generation names the target (hand-written `mentionEdges`) is
admitted by the generated `codegen_edges` table, the `Generic` gate evaluated with
`is_enabled_for_codegen` of the class of item the edge points to.  Dropping an edge kind from
`codegen_edges`, or gating it on another flag, breaks this. -/
theorem C09_mention_subset_codegen (cfg : Nat) (k : EdgeKind) (h : mentionEdges cfg k = true) :
    (codegenEdgeGate k).eval cfg ((enabledFor (targetClass k)).eval cfg) = true := by
  -- row by row, both sides are the same `CodegenConfig` bit
  cases k <;> exact h

theorem C09_mention_subset_all (cfg : Nat) (en : Nat → Bool) (e : Edge) :
    Pred.allEdges.admits cfg en e = true := rfl

/-- The comment in `codegen_edges` ("we statically know the kind of item that non-generic edges can
point to, so we don't need to [...] check `Item::is_enabled_for_codegen`") as an obligation on the
two generated tables. -/
theorem C09_codegen_gate_eq_target_enabled (cfg : Nat) (k : EdgeKind) (te : Bool) (hk : k ≠ .generic) :
    (codegenEdgeGate k).eval cfg te = (enabledFor (targetClass k)).eval cfg := by
  cases k with
  | generic => exact absurd rfl hk
  | _ => rfl

theorem C09_cfgbits_wellformed :
    (CfgBit.all.map CfgBit.index).Nodup ∧ ∀ b, b ∈ CfgBit.all → b.index < 6 := by decide +kernel

/-! ### regular-expression sets -/

theorem C09_anchored_whole_name (p : Re) (s : List Char) : IsMatch (anchored p) s ↔ Lang p s :=
  anchored_whole_name p s

theorem C09_matches_iff (p : Re) (s : List Char) : Regex.matches p s = true ↔ IsMatch (anchored p) s :=
  matches_eq_anchored p s

theorem C09_set_matches_iff (set : RegexSet) (name : List Char) :
    set.matches name = true ↔
      (∀ i, i ∈ set.items → i ≠ none) ∧ ∃ r, some r ∈ set.items ∧ IsMatch (anchored r) name := by
  simp only [RegexSet.matches, Bool.if_false_left, Bool.decide_eq_true, Bool.and_eq_true, Bool.not_eq_true',
    List.any_eq_false, List.any_eq_true, Option.isNone_iff_eq_none, Option.exists, Bool.false_eq_true, and_false,
    false_or, matches_eq_anchored, ne_eq]

theorem C09_prefix_not_matched :
    Regex.matches (.cat (lit 'f') (.cat (lit 'o') (lit 'o'))) ['f', 'o', 'o', 'b'] = false ∧
    Regex.matches (.cat (lit 'f') (.cat (lit 'o') (lit 'o'))) ['f', 'o'] = false ∧
    Regex.matches (.cat (lit 'f') (.cat (lit 'o') (lit 'o'))) ['f', 'o', 'o'] = true ∧
    searchMatches (.cat (lit 'f') (.cat (lit 'o') (lit 'o'))) ['x', 'f', 'o', 'o', 'b'] = true := by
  decide +kernel

/-! ### known findings (negation lemmas with concrete witnesses)

The theorems above are about the model's own notion of root.  It departs from the property text in
`synthetic_names_match` (and in `blocklist_file_hides_namespace`, which is with C10); the naming of
anonymous items does in `anon_type_renumbered`. -/

/-- `[^n].*` -/
def exPatNotN : Re := .cat (.cls true [(110, 110)]) (.star dot)

/-- `struct nU { int a; }; struct other { int b; }; void F(struct nU *p);` with
`--allowlist-type '[^n].*'`: items 1 = `nU`, 4 = `other`, 8 = the pointer type `struct nU *`
(synthetic name `ptr_struct_nU`), 11 = `F`. -/
def exSynItems : List ItemInfo := [
  { id := 0, cls := .module, useInsteadOf := false, file := none, name := [], autoKind := false,
    parentIsModule := false, unnamedEnumVariants := none },
  { id := 1, cls := .type, useInsteadOf := false, file := none, name := ['n', 'U'], autoKind := false,
    parentIsModule := true, unnamedEnumVariants := none },
  { id := 4, cls := .type, useInsteadOf := false, file := none, name := ['o', 't', 'h', 'e', 'r'],
    autoKind := false, parentIsModule := true, unnamedEnumVariants := none },
  { id := 8, cls := .type, useInsteadOf := false, file := none,
    name := ['p', 't', 'r', '_', 's', 't', 'r', 'u', 'c', 't', '_', 'n', 'U'], autoKind := true,
    syntheticKind := true, parentIsModule := true, unnamedEnumVariants := none },
  { id := 11, cls := .fnFunction, useInsteadOf := false, file := none, name := ['F'], autoKind := false,
    parentIsModule := true, unnamedEnumVariants := none } ]

def exSynGraph : Graph where
  nodes := [0, 1, 4, 8, 11]
  out := fun
    | 8 => [⟨1, .typeReference⟩]
    | _ => []

def exSynOpts : Options :=
  { cfg := 63, recursive := true, sizeTIsUsize := true, types := ⟨[some exPatNotN]⟩, functions := ⟨[]⟩,
    vars := ⟨[]⟩, files := ⟨[]⟩, items := ⟨[]⟩ }

/-- `synthetic_names_match`: `nU` does not match `[^n].*` and nothing the user named needs it, yet it
is in `codegen_items`, because the pointer type item `struct nU *` carries the synthetic name
`ptr_struct_nU`, which matches (region `syntheticRoot`). -/
theorem C09_fails_on_synthetic_names :
    exSynOpts.types.matches ['n', 'U'] = false ∧
    (exSynItems.filter (fun it => syntheticRoot exSynOpts it)).map (·.id) = [8] ∧
    (compute exSynGraph exSynOpts exSynItems (fun _ => true) (fun _ => false)).map (·.codegen)
      = some [0, 4, 8, 1] := by decide +kernel

theorem C09_without_synthetic_root :
    (allowlistedTraversal (exSynGraph.succ fun _ => true) (fun _ => false) 10 [4, 0]) = some [0, 4] := by decide +kernel

/-- `anon_type_renumbered`: two anonymous enums `a` (in an allow-listed file) and `b`.  Without an
allow-list, names are first requested in codegen order `[a, b]`; with `--allowlist-file` the root
filter returns early for `a` (`C09_file_match_skips_name`) and requests the name of `b` first, so `a`
gets two numbers.  The two request orders are written out by hand: nothing here derives them from
`nameRequestedByRootFilter`. -/
theorem C09_fails_on_anon_renumbering :
    localId [10, 20] 10 = some 1 ∧ localId [20, 10] 10 = some 2 := by decide +kernel

theorem C09_file_match_skips_name (o : Options) (it : ItemInfo) (f : List Char)
    (hf : it.file = some f) (hne : o.files.isEmpty = false) (hm : o.files.matches f = true)
    : nameRequestedByRootFilter o it = false := by
  simp [nameRequestedByRootFilter, hf, hne, hm]

theorem nameRequested_eq_of_no_files (o : Options) (it : ItemInfo)
    (hsome : (o.types.isEmpty && o.functions.isEmpty && o.vars.isEmpty && o.files.isEmpty && o.items.isEmpty) = false)
    (hf : o.files.isEmpty = true) : nameRequestedByRootFilter o it = !it.useInsteadOf := by
  unfold nameRequestedByRootFilter
  rw [if_neg (Bool.eq_false_iff.mp hsome), hf]
  cases it.useInsteadOf <;> rfl

/-- Once something is allow-listed and no `--allowlist-file` is given, the only early answer left is
the `replaces` annotation.  The sequence of name requests (hence `localId`, the number an anonymous
type gets) is then the item order whatever the patterns: the region of `anon_type_renumbered` is
"a file pattern is given". -/
theorem C09_names_requested_without_files (o : Options) (it : ItemInfo)
    (hsome : (o.types.isEmpty && o.functions.isEmpty && o.vars.isEmpty && o.files.isEmpty && o.items.isEmpty) = false)
    (hf : o.files.isEmpty = true) (hr : it.useInsteadOf = false) :
    nameRequestedByRootFilter o it = true := by
  rw [nameRequested_eq_of_no_files o it hsome hf, hr]
  rfl

theorem C09_request_order_pattern_independent (o₁ o₂ : Options) (items : List ItemInfo)
    (h₁ : (o₁.types.isEmpty && o₁.functions.isEmpty && o₁.vars.isEmpty && o₁.files.isEmpty && o₁.items.isEmpty) = false)
    (h₂ : (o₂.types.isEmpty && o₂.functions.isEmpty && o₂.vars.isEmpty && o₂.files.isEmpty && o₂.items.isEmpty) = false)
    (f₁ : o₁.files.isEmpty = true) (f₂ : o₂.files.isEmpty = true) :
    (items.filter (nameRequestedByRootFilter o₁)).map (·.id) = (items.filter (nameRequestedByRootFilter o₂)).map (·.id) := by
  rw [funext fun it => nameRequested_eq_of_no_files o₁ it h₁ f₁,
    funext fun it => nameRequested_eq_of_no_files o₂ it h₂ f₂]

theorem C09_numbering_pattern_independent (o₁ o₂ : Options) (items : List ItemInfo) (x : Nat)
    (h₁ : (o₁.types.isEmpty && o₁.functions.isEmpty && o₁.vars.isEmpty && o₁.files.isEmpty && o₁.items.isEmpty) = false)
    (h₂ : (o₂.types.isEmpty && o₂.functions.isEmpty && o₂.vars.isEmpty && o₂.files.isEmpty && o₂.items.isEmpty) = false)
    (f₁ : o₁.files.isEmpty = true) (f₂ : o₂.files.isEmpty = true) :
    localId ((items.filter (nameRequestedByRootFilter o₁)).map (·.id)) x =
      localId ((items.filter (nameRequestedByRootFilter o₂)).map (·.id)) x := by
  rw [C09_request_order_pattern_independent o₁ o₂ items h₁ h₂ f₁ f₂]

/-- What the translator reads off the source: the closure takes its steps in the modelled order and
computes the name as an unconditional statement between the file test and the pattern tests (a name
computed only when some pattern set is non-empty would make the numbering depend on the patterns). -/
theorem C09_root_filter_steps_in_source :
    rootFilterSteps = ["nothingAllowlisted", "useInsteadOf", "files", "name", "items", "kindMatch"] ∧
    rootFilterNameUnconditional = true ∧ rootsReversed = true := ⟨rfl, rfl, rfl⟩

/-! ### examples -/

def exGraph : Graph where
  nodes := [0, 1, 2, 3]
  out := fun
    | 0 => [⟨1, .field⟩]
    | 1 => [⟨2, .typeReference⟩]
    | _ => []

example : allowlistedTraversal (exGraph.succ fun _ => true) (fun i => i == 1) (exGraph.fuel [0]) [0]
    = some [0, 2] := by decide +kernel

example : exGraph.Closed := by
  intro v e he
  match v, he with
  | 0, he =>
    cases List.mem_singleton.mp he
    decide
  | 1, he =>
    cases List.mem_singleton.mp he
    decide
  | _ + 2, he => cases he

example : mentionEdges 2 .field = true ∧ mentionEdges 2 .method = false := by decide +kernel

end BindgenModel.Reach

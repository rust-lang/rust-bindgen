import BindgenModel.Model.Format
import BindgenModel.Model.Pipe
/-! # C15 — formatter choice changes only whitespace; formatter failure is not fatal

Part 1 (`Format`): `write` is total and its body is the child's output only when that output is
UTF-8 and the exit code is accepted by the (generated) triage table, otherwise exactly the
unformatted source; the prefix (header comment, raw lines, blank line) does not depend on the
formatter or on the child.  Obligations on the generated table: the accepted codes are exactly 0
and 3.

Part 2 (`Pipe`): for every finite child program, every pipe capacity and every scheduler that runs
some enabled party whenever one exists (the only fairness assumption), the parent reaches `done`
within `measure` steps: no deadlock, termination.  A child that neither exits nor reads is not a
finite program and is outside the claim. -/
namespace BindgenModel.Format
open BindgenModel.Generated

/-- 3 is "Rustfmt could not format some lines": a diagnostic, the output is kept -/
theorem C15_triage_accepts_0_and_3 : triage (.code 0) = .formatted ∧ triage (.code 3) = .formatted := by decide

theorem triageWith_ne_default {arms : List (Int × FmtVerdict)} {d v : FmtVerdict} {st : Status}
    (h : triageWith arms d st = v) (hv : v ≠ d) : ∃ c, st = .code c ∧ (c, v) ∈ arms := by
  cases st with
  | signal => exact absurd h.symm hv
  | code c =>
    simp only [triageWith] at h
    split at h
    · next a hfind =>
      have hc : a.1 = c := by simpa using List.find?_some hfind
      exact ⟨c, rfl, hc ▸ h ▸ List.mem_of_find?_eq_some hfind⟩
    · exact absurd h.symm hv

theorem C15_triage_accepts_only_0_and_3 (st : Status) (h : triage st = .formatted) :
    st = .code 0 ∨ st = .code 3 := by
  obtain ⟨c, rfl, hc⟩ := triageWith_ne_default h (by decide)
  have harms : ∀ p ∈ exitArms, p.2 = FmtVerdict.formatted → p.1 = 0 ∨ p.1 = 3 := by decide
  exact (harms _ hc rfl).imp (congrArg _) (congrArg _)

/-- the fault codes named by the property, and death by a signal -/
theorem C15_triage_rejects_faults :
    triage (.code 1) = .error ∧ triage (.code 2) = .error ∧ triage (.code 101) = .error ∧
    triage (.code 255) = .error ∧ (∀ s, triage (.signal s) = .error) :=
  ⟨by decide, by decide, by decide, by decide, fun _ => rfl⟩

theorem C15_non_utf8_returns_source : nonUtf8ReturnsSource = true := by decide

/-- The decision table of `write`; the theorems about `write` read their cases off it. -/
theorem write_eq (pp : String → String) (o : Opts) (out : Outcome) (source : String) :
    write pp o out source = .ok (prefixText o ++
      match o.formatter, out with
      | .prettyplease, _ => pp source
      | .rustfmt, .exited (some s) st => if triage st = .formatted then s else source
      | _, _ => source) := by
  unfold write formatTokens
  cases o.formatter with
  | none => rfl
  | prettyplease => rfl
  | rustfmt =>
    cases out with
    | exited so st =>
      cases so with
      | none => simp [C15_non_utf8_returns_source]
      | some s => cases ht : triage st <;> simp [ht]
    | _ => rfl

theorem C15_write_total (pp : String → String) (o : Opts) (out : Outcome) (source : String) :
    ∃ body, write pp o out source = .ok (prefixText o ++ body) ∧
      (body = source ∨
       (o.formatter = .prettyplease ∧ body = pp source) ∨
       (o.formatter = .rustfmt ∧ ∃ st, out = .exited (some body) st ∧ (st = .code 0 ∨ st = .code 3))) := by
  refine ⟨_, write_eq pp o out source, ?_⟩
  split
  · next hf => exact .inr (.inl ⟨hf, rfl⟩)
  · next s st hf =>
    split
    · next ht => exact .inr (.inr ⟨hf, st, rfl, C15_triage_accepts_only_0_and_3 st ht⟩)
    · exact .inl rfl
  · exact .inl rfl

/-- Formatter failure is not fatal: the body is the unformatted source itself (same string, hence
token-identical). -/
theorem C15_fallback_token_identical (pp : String → String) (o : Opts) (out : Outcome) (source : String)
    (hf : o.formatter = .rustfmt)
    (hfault : out = .spawnFailed ∨ out = .readFailed ∨ out = .waitFailed ∨ (∃ st, out = .exited none st) ∨
      (∃ s st, out = .exited (some s) st ∧ st ≠ .code 0 ∧ st ≠ .code 3)) :
    write pp o out source = .ok (prefixText o ++ source) := by
  rw [write_eq, hf]
  rcases hfault with rfl | rfl | rfl | ⟨st, rfl⟩ | ⟨s, st, rfl, h0, h3⟩
  · rfl
  · rfl
  · rfl
  · rfl
  · have ht : triage st ≠ .formatted := fun ht => (C15_triage_accepts_only_0_and_3 st ht).elim h0 h3
    simp [ht]

theorem C15_success_and_partial_success_accepted (pp : String → String) (o : Opts) (s source : String)
    (hf : o.formatter = .rustfmt) (c : Int) (hc : c = 0 ∨ c = 3) :
    write pp o (.exited (some s) (.code c)) source = .ok (prefixText o ++ s) := by
  rw [write_eq, hf]
  rcases hc with rfl | rfl
  · simp [C15_triage_accepts_0_and_3.1]
  · simp [C15_triage_accepts_0_and_3.2]

theorem C15_none_is_source (pp : String → String) (o : Opts) (out : Outcome) (source : String)
    (hf : o.formatter = .none) : write pp o out source = .ok (prefixText o ++ source) := by
  rw [write_eq, hf]

/-- `body` is unconstrained here (`C15_write_total` says what it is), so the statement does not exclude
that the prefix text occurs again in it. -/
theorem C15_prefix_once_in_order (pp : String → String) (o : Opts) (out : Outcome) (source : String) :
    ∃ body, write pp o out source =
      .ok ((if o.headerComment then "/* automatically generated by rust-bindgen " ++ o.version ++ " */" ++ "\n" ++ "\n" else "")
        ++ (String.join (o.rawLines.map (· ++ "\n")) ++ (if o.rawLines.isEmpty then "" else "\n")) ++ body) :=
  ⟨_, write_eq pp o out source⟩

/-- `prefixText` does not read `formatter`: `prefixText { o with formatter := f }` unfolds to
`prefixText o`, so `write_eq` at the updated options applies. -/
theorem C15_prefix_independent (pp : String → String) (o : Opts) (f₁ f₂ : Formatter) (o₁ o₂ : Outcome)
    (source : String) :
    ∃ b₁ b₂, write pp { o with formatter := f₁ } o₁ source = .ok (prefixText o ++ b₁) ∧
             write pp { o with formatter := f₂ } o₂ source = .ok (prefixText o ++ b₂) :=
  ⟨_, _, write_eq pp _ o₁ source, write_eq pp _ o₂ source⟩

theorem C15_classify_sound (pp : String → String) (o : Opts) (out : Outcome) (source : String)
    (h : classify o.formatter out = .fallback) (hp : o.formatter ≠ .prettyplease) :
    write pp o out source = .ok (prefixText o ++ source) := by
  rw [write_eq]
  split
  · next hf => exact absurd hf hp
  · next s st hf => rw [if_neg fun ht => by simp [hf, classify, ht] at h]
  · rfl

theorem C15_classify_formatted (pp : String → String) (o : Opts) (out : Outcome) (source : String)
    (hf : o.formatter = .rustfmt) (h : classify o.formatter out = .formatted) :
    ∃ s st, out = .exited (some s) st ∧ (st = .code 0 ∨ st = .code 3) ∧
      write pp o out source = .ok (prefixText o ++ s) := by
  rw [write_eq, hf]
  rw [hf] at h
  match out, h with
  | .exited (some s) st, h =>
    have ht : triage st = .formatted := Decidable.byContradiction fun ht => by simp [classify, ht] at h
    exact ⟨s, st, rfl, C15_triage_accepts_only_0_and_3 st ht, by simp only [ht, ↓reduceIte]⟩
  | .exited none _, h | .spawnFailed, h | .readFailed, h | .waitFailed, h => nomatch h

theorem C15_no_child_consulted (pp : String → String) (o : Opts) (o₁ o₂ : Outcome) (source : String)
    (hf : o.formatter ≠ .rustfmt) : write pp o o₁ source = write pp o o₂ source := by
  rw [write_eq, write_eq]
  cases hf' : o.formatter with
  | none => rfl
  | prettyplease => rfl
  | rustfmt => exact absurd hf' hf

/-- the writer of the model (`Vec<u8>`) does not fail -/
theorem C15_write_never_errs (pp : String → String) (o : Opts) (out : Outcome) (source : String) :
    write pp o out source ≠ .error () := by
  rw [write_eq]
  nofun

/-! ## formatter choice and tokens

The formatters are external (`pp` is uninterpreted; rustfmt is a child process): that their output
has the tokens of the source is observed, not proved, and is observed to be false as stated: when
rustfmt / prettyplease break a parameter list over several lines they add a trailing comma, a token
the unformatted text does not have (known finding `formatter_trailing_comma`, region
`regionTrailingComma`). -/

/-- the unformatted `fn f(a: A, b: B);` (1 = fn, 2 = f, …) -/
def witnessSrc : List Tok := [.other 1, .other 2, .opn, .other 3, .comma, .other 4, .cls, .other 5]
/-- the same after a formatter broke the parameter list: `fn f(\n a: A,\n b: B,\n);` -/
def witnessFmt : List Tok := [.other 1, .other 2, .opn, .other 3, .comma, .other 4, .comma, .cls, .other 5]

theorem C15_fails_on_trailing_comma : witnessSrc ≠ witnessFmt ∧ regionTrailingComma witnessSrc witnessFmt = true := by
  decide

theorem C15_region_trailing_comma_spec (a b : List Tok) :
    regionTrailingComma a b = true ↔ (a ≠ b ∧ stripTC a = stripTC b) := by
  simp [regionTrailingComma]

theorem stripTC_filter_nonComma (l : List Tok) :
    (stripTC l).filter (· != .comma) = l.filter (· != .comma) := by
  fun_induction stripTC l with
  | case1 => rfl
  | case2 r ih => simpa [List.filter_cons] using ih
  | case3 t r hne ih => simp only [List.filter_cons, ih]

/-- The region masks nothing but commas: a formatter that drops, adds, reorders or rewrites any other
token is outside it and is reported. -/
theorem C15_region_only_commas (a b : List Tok) (h : regionTrailingComma a b = true) :
    a.filter (· != .comma) = b.filter (· != .comma) := by
  have h' := ((C15_region_trailing_comma_spec a b).1 h).2
  rw [← stripTC_filter_nonComma a, ← stripTC_filter_nonComma b, h']

theorem C15_region_symm (a b : List Tok) : regionTrailingComma a b = regionTrailingComma b a := by
  unfold regionTrailingComma
  rw [bne_comm, BEq.comm]

theorem stripTC_length_le (l : List Tok) : (stripTC l).length ≤ l.length := by
  fun_induction stripTC l with
  | case1 => exact Nat.le_refl _
  | case2 r ih => exact Nat.le_succ_of_le (Nat.succ_le_succ ih)
  | case3 t r hne ih => exact Nat.succ_le_succ ih

example : regionTrailingComma witnessSrc witnessFmt = true ∧
    witnessSrc.filter (· != .comma) = witnessFmt.filter (· != .comma) := by decide

example : write id ⟨true, "0.72.0", ["use a;", "use b;"], .rustfmt⟩ (.exited (some "fn f() {}\n") (.code 1)) "fn f () { }"
    = .ok (prefixText ⟨true, "0.72.0", ["use a;", "use b;"], .rustfmt⟩ ++ "fn f () { }") :=
  C15_fallback_token_identical _ _ _ _ rfl (Or.inr (Or.inr (Or.inr (Or.inr ⟨_, _, rfl, by decide, by decide⟩))))
example : write id ⟨false, "v", [], .rustfmt⟩ (.exited (some "fn f() {}\n") (.code 3)) "fn f () { }"
    = .ok (prefixText ⟨false, "v", [], .rustfmt⟩ ++ "fn f() {}\n") :=
  C15_success_and_partial_success_accepted _ _ _ _ rfl 3 (Or.inr rfl)

end BindgenModel.Format

namespace BindgenModel.Pipe

structure Inv (c : Caps) (s : St) : Prop where
  dead : s.alive = false → s.cinOpen = false ∧ s.coutOpen = false
  afterCopy : s.phase ≠ .copy → s.coutOpen = false ∧ s.outbuf = 0
  afterWait : (s.phase = .join ∨ s.phase = .done) → s.alive = false
  inCap : s.inbuf ≤ c.capIn
  outCap : s.outbuf ≤ c.capOut

theorem C15_init_inv (c : Caps) (n : Nat) (prog : List CAct) : Inv c (init n prog) := by
  constructor <;> simp [init]

/-- Each step re-proves only the clauses whose components it writes. -/
theorem C15_inv_step (c : Caps) (s s' : St) (hi : Inv c s) (h : Step c s s') : Inv c s' := by
  cases h with
  | wFinish | wEpipe | cReadErr | cReadEof | cWriteNone => exact { hi with }
  | wWrite k _ _ _ _ hk => exact { hi with inCap := hk }
  | cExit =>
    exact { hi with
      dead := fun _ => ⟨rfl, rfl⟩, afterCopy := fun hp => ⟨rfl, (hi.afterCopy hp).2⟩, afterWait := fun _ => rfl }
  | cRead => exact { hi with inCap := Nat.le_trans (Nat.sub_le _ _) hi.inCap }
  -- the child still holds stdout open, so the parent is still copying
  | cWriteAll n rest _ _ ho _ hk | cWritePart n k rest _ _ ho _ _ hk =>
    exact { hi with afterCopy := fun hp => absurd ((hi.afterCopy hp).1 ▸ ho) nofun, outCap := hk }
  | cCloseIn => exact { hi with dead := fun ha => ⟨rfl, (hi.dead ha).2⟩ }
  | cCloseOut =>
    exact { hi with dead := fun ha => ⟨(hi.dead ha).1, rfl⟩, afterCopy := fun hp => ⟨rfl, (hi.afterCopy hp).2⟩ }
  | rRead k hp =>
    exact { hi with afterCopy := fun h => absurd hp h, outCap := Nat.le_trans (Nat.sub_le _ _) hi.outCap }
  | rEof _ hb hc => exact { hi with afterCopy := fun _ => ⟨hc, hb⟩, afterWait := fun h => by simp at h }
  | rWait hp ha => exact { hi with afterCopy := fun _ => hi.afterCopy (by simp [hp]), afterWait := fun _ => ha }
  | rJoin hp =>
    exact { hi with
      afterCopy := fun _ => hi.afterCopy (by simp [hp]), afterWait := fun _ => hi.afterWait (.inl hp) }

theorem CAct.weight_pos (a : CAct) : 0 < a.weight := by
  cases a <;> exact Nat.succ_pos _

theorem measure_prog_tail {s : St} {a : CAct} {rest : List CAct} (h : s.prog = a :: rest) :
    measure { s with prog := rest } < measure s := by
  simp only [measure, h, progWeight, Nat.add_lt_add_iff_right, Nat.add_lt_add_iff_left]
  exact Nat.lt_add_of_pos_left a.weight_pos

theorem measure_phase {s : St} {p : Phase} (h : p.rank < s.phase.rank) :
    measure { s with phase := p } < measure s :=
  Nat.add_lt_add_left h _

/-- A byte is worth 2 before its owner has written it and 1 while it sits in a pipe, so moving it pays
for the step; every other step spends the unit of an action, of a flag or of a phase. -/
theorem C15_measure_decreases (c : Caps) (s s' : St) (h : Step c s s') : measure s' < measure s := by
  cases h with
  | wFinish h | wEpipe h | cExit h => simp +arith only [measure, h, ↓reduceIte, Bool.false_eq_true]
  -- the measure does not read `cinOpen` and `coutOpen`
  | cReadErr rest _ hp | cReadEof rest _ hp | cWriteNone n rest _ hp | cCloseIn rest _ hp | cCloseOut rest _ hp =>
    exact measure_prog_tail hp
  | rEof hp | rWait hp | rJoin hp => exact measure_phase (by rw [hp]; decide)
  | cWriteAll n rest _ hp => simp +arith only [measure, hp, progWeight, CAct.weight]
  -- `k` bytes move: with the source written as `k + d` no truncated subtraction is left, and what
  -- remains of the inequality is `0 < k`
  | wWrite k _ _ hk hle | rRead k _ hk hle =>
    obtain ⟨d, hd⟩ := Nat.le.dest hle
    simp +arith only [measure, ← hd, Nat.add_sub_cancel_left]
    exact hk
  | cRead rest k _ hp _ _ hle =>
    obtain ⟨d, hd⟩ := Nat.le.dest hle
    simp +arith only [measure, hp, progWeight, CAct.weight, ← hd, Nat.add_sub_cancel_left]
  | cWritePart n k rest _ hp _ hk hlt =>
    obtain ⟨d, hd⟩ := Nat.le.dest (Nat.le_of_lt hlt)
    simp +arith only [measure, hp, progWeight, CAct.weight, ← hd, Nat.add_sub_cancel_left]
    exact hk

theorem writer_enabled (c : Caps) (s : St) (hw : s.wdone = false)
    (hroom : s.cinOpen = true → s.inbuf < c.capIn) : ∃ s', Step c s s' := by
  by_cases h0 : s.wrem = 0
  · exact ⟨_, .wFinish s hw h0⟩
  · have hpos := Nat.pos_of_ne_zero h0
    cases hc : s.cinOpen with
    | true => exact ⟨_, .wWrite s 1 hw hc Nat.one_pos hpos (hroom hc)⟩
    | false => exact ⟨_, .wEpipe s hw hpos hc⟩

/-- The step need not be the child's: at a `read` on an empty open stdin whose writer has not finished,
it is the writer that can move (`inbuf = 0 < capIn`). -/
theorem child_enabled (c : Caps) (s : St) (ha : s.alive = true)
    (hroom : s.coutOpen = true → s.outbuf < c.capOut) : ∃ s', Step c s s' := by
  match hp : s.prog with
  | [] => exact ⟨_, .cExit s ha hp⟩
  | .closeIn :: rest => exact ⟨_, .cCloseIn s rest ha hp⟩
  | .closeOut :: rest => exact ⟨_, .cCloseOut s rest ha hp⟩
  | .write 0 :: rest => exact ⟨_, .cWriteNone s 0 rest ha hp (.inl rfl)⟩
  | .write (n + 1) :: rest =>
    cases hco : s.coutOpen with
    | false => exact ⟨_, .cWriteNone s _ rest ha hp (.inr hco)⟩
    | true =>
      -- one byte fits: all of a one-byte write, part of a longer one
      cases n with
      | zero => exact ⟨_, .cWriteAll s 1 rest ha hp hco Nat.one_pos (hroom hco)⟩
      | succ n =>
        exact ⟨_, .cWritePart s (n + 2) 1 rest ha hp hco Nat.one_pos (Nat.succ_lt_succ n.succ_pos) (hroom hco)⟩
  | .read :: rest =>
    cases hc : s.cinOpen with
    | false => exact ⟨_, .cReadErr s rest ha hp hc⟩
    | true =>
      by_cases hb : s.inbuf = 0
      · cases hw : s.wdone with
        | true => exact ⟨_, .cReadEof s rest ha hp hc hb hw⟩
        | false => exact writer_enabled c s hw fun _ => hb ▸ c.hIn
      · exact ⟨_, .cRead s rest 1 ha hp hc Nat.one_pos (Nat.pos_of_ne_zero hb)⟩

theorem C15_no_deadlock (c : Caps) (s : St) (hi : Inv c s) (hnd : s.phase ≠ .done) : ∃ s', Step c s s' := by
  cases hph : s.phase with
  | done => exact absurd hph hnd
  | copy =>
    by_cases hb : s.outbuf = 0
    · cases hco : s.coutOpen with
      | false => exact ⟨_, .rEof s hph hb hco⟩
      | true =>
        have ha : s.alive = true := Bool.of_not_eq_false fun ha => by simp [(hi.dead ha).2] at hco
        exact child_enabled c s ha fun _ => hb ▸ c.hOut
    · exact ⟨_, .rRead s 1 hph Nat.one_pos (Nat.pos_of_ne_zero hb)⟩
  | wait =>
    cases ha : s.alive with
    | false => exact ⟨_, .rWait s hph ha⟩
    | true => exact child_enabled c s ha fun h => by simp [(hi.afterCopy (by simp [hph])).1] at h
  | join =>
    cases hw : s.wdone with
    | true => exact ⟨_, .rJoin s hph hw⟩
    | false => exact writer_enabled c s hw fun h => by simp [(hi.dead (hi.afterWait (.inl hph))).1] at h

def runN (sched : St → Option St) : Nat → St → St
  | 0, s => s
  | n + 1, s => match sched s with
    | some s' => runN sched n s'
    | none => s

/-- The fairness assumption is `hs` and `hp` only: the scheduler picks a step the system can take and
does not idle while some party is enabled. -/
theorem C15_parent_terminates (c : Caps) (sched : St → Option St)
    (hs : ∀ s s', sched s = some s' → Step c s s')
    (hp : ∀ s, sched s = none → ¬ ∃ s', Step c s s')
    (n : Nat) (s : St) (hi : Inv c s) (hn : measure s ≤ n) : (runN sched n s).phase = .done := by
  -- a state that is not `done` has a step (`C15_no_deadlock`), and a step needs measure left
  induction n generalizing s with
  | zero =>
    refine Decidable.byContradiction fun hnd => ?_
    obtain ⟨s', h⟩ := C15_no_deadlock c s hi hnd
    exact Nat.not_lt_zero _ (Nat.lt_of_lt_of_le (C15_measure_decreases c s s' h) hn)
  | succ n ih =>
    unfold runN
    cases hsch : sched s with
    | none => exact Decidable.byContradiction fun hnd => hp s hsch (C15_no_deadlock c s hi hnd)
    | some s' =>
      have h := hs s s' hsch
      exact ih s' (C15_inv_step c s s' hi h)
        (Nat.le_of_lt_succ (Nat.lt_of_lt_of_le (C15_measure_decreases c s s' h) hn))

theorem C15_format_tokens_terminates (c : Caps) (sched : St → Option St)
    (hs : ∀ s s', sched s = some s' → Step c s s')
    (hp : ∀ s, sched s = none → ¬ ∃ s', Step c s s')
    (sourceLen : Nat) (prog : List CAct) :
    (runN sched (measure (init sourceLen prog)) (init sourceLen prog)).phase = .done :=
  C15_parent_terminates c sched hs hp _ _ (C15_init_inv c sourceLen prog) (Nat.le_refl _)

example : measure (init 5000000 [.write 10]) = 10000026 := by decide

end BindgenModel.Pipe

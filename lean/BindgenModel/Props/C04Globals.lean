import BindgenModel.Model.GlobalConst
import BindgenModel.Generated.GlobalConstRule
/-!
# C04 — globals have the declared mutability

About `Model/GlobalConst.lean`.  `Var::parse` looks for `const` on the innermost element type of an array (source
obligation `C04_global_const_rule_in_source`, regenerated `Generated/GlobalConstRule.lean`), so for every type libclang
can report the binding is immutable exactly when C declares the object `const` (`C04_global_mutability`).
-/
namespace BindgenModel.C04
open BindgenModel.GlobalConst BindgenModel.Generated

theorem innermost_selfConst (t : GTy) : t.innermost.selfConst = t.declaredConst := by
  induction t with
  | leaf c => rfl
  | array c e ih => simpa [GTy.innermost, GTy.declaredConst] using ih

theorem C04_global_mutability (t : GTy) (h : t.Clang) : isConst true t = t.declaredConst := by
  unfold isConst
  simp only [if_true, innermost_selfConst]
  cases t with
  | leaf c => simp [GTy.selfConst, GTy.declaredConst]
  | array c e =>
    obtain ⟨hc, _⟩ := h
    simp [GTy.selfConst, hc]

/-- The rule that looks at one element level only (the defect repaired in /repo e0ad9728) makes
`extern const int m[2][3];` mutable. -/
theorem C04_one_level_rule_wrong :
    isConst false (.array false (.array false (.leaf true))) = false ∧
    (GTy.array false (.array false (.leaf true))).declaredConst = true ∧
    isConst true (.array false (.array false (.leaf true))) = true := by decide

theorem C04_global_const_rule_in_source : globalConstAllLevels = true := by decide

end BindgenModel.C04

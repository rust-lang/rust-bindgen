import BindgenModel.Lemmas.PostTree
/-! # C18 — extern-block merging and semantic sorting only regroup items

All theorems are about `Model/Post.lean` with the tables of `Generated/PostTables.lean` (rank table,
compared fields, pass order, extracted from the source on every run) and quantify over all item
lists / module trees and all four on/off combinations (`c : Config`).

The inventory theorem with unsafety depends on the compared fields (`C18_key_cases`: one of two
lists).  For the key `[attrs, abi]` (known finding `merge_mixed_unsafety`, repaired in /repo c94e9491) it holds only if no module
level has two blocks with equal (attrs, abi) and different unsafety (`…_partial`, region predicate
`mixedUnsafety`); `C18_fails_on_mixed_unsafety` is the negation on the excluded region.  With
`unsafety` among the compared fields the hypothesis is not needed
(`C18_inventory_perm_of_unsafety_key`). -/
set_option linter.unusedSectionVars false
namespace BindgenModel.Post
open BindgenModel.Generated

variable {α : Type} [DecidableEq α]

/-- the comparison in `merge_extern_blocks.rs` includes the attributes and the ABI -/
theorem C18_key_has_attrs_abi : MergeField.attrs ∈ mergeKeyFields ∧ MergeField.abi ∈ mergeKeyFields := by
  decide

/-- `PASSES` = merge, then sort (the order the idempotence proof is about) -/
theorem C18_passes_order : passes = [.mergeExternBlocks, .sortSemantically] := by decide

/-- definitional in the model; stated so that a change of `Item.rank` is visible -/
theorem C18_rank_of_blocks_and_modules (f : Foreign α) (h : α) (is : List (Item α)) :
    (Item.foreign f).rank = sortRank .foreignMod ∧ (Item.module h is).rank = sortRank .mod := ⟨rfl, rfl⟩

def levelOp (fields : List MergeField) (c : Config) : List (Item α) → List (Item α) :=
  (if c.sort then sortLevel else fun l => l) ∘ (if c.merge then mergeLevel fields else fun l => l)

theorem levelOp_cases {P : (List (Item α) → List (Item α)) → Prop} (fields) (c : Config)
    (off : P fun l => l) (merge : P (mergeLevel fields)) (sort : P sortLevel)
    (both : P (sortLevel ∘ mergeLevel fields)) : P (levelOp fields c) := by
  obtain ⟨m, s⟩ := c
  cases m <;> cases s
  · exact off
  · exact sort
  · exact merge
  · exact both

theorem levelOp_natural (fields) (c : Config) : Natural (levelOp (α := α) fields c) :=
  levelOp_cases fields c natural_id (mergeLevel_natural fields) sortLevel_natural
    ((mergeLevel_natural fields).comp sortLevel_natural)

/-- both passes recurse in the same way, so they fuse into one traversal with the level operation -/
theorem postprocessWith_eq_levelOp (fields) (c : Config) (items : List (Item α)) :
    postprocessWith fields [.mergeExternBlocks, .sortSemantically] c items = treeFile (levelOp fields c) items := by
  obtain ⟨m, s⟩ := c
  cases m <;> cases s
  · exact (treeFile_id items).symm
  · rfl
  · rfl
  · exact treeFile_fuse (mergeLevel_natural fields) items

theorem postprocess_eq_postprocessWith (c : Config) (items : List (Item α)) :
    postprocess c items = postprocessWith mergeKeyFields [.mergeExternBlocks, .sortSemantically] c items := by
  rw [postprocess, C18_passes_order]

theorem C18_postprocess_eq_levelOp (c : Config) (items : List (Item α)) :
    postprocess c items = treeFile (levelOp mergeKeyFields c) items := by
  rw [postprocess_eq_postprocessWith, postprocessWith_eq_levelOp]

/-- the code visits a level first and then its inline modules; the model visits the modules first:
same result -/
theorem C18_visit_order (c : Config) (items : List (Item α)) :
    postprocess c items =
      (levelOp mergeKeyFields c items).map (treeItem (levelOp mergeKeyFields c)) := by
  rw [C18_postprocess_eq_levelOp, treeFile_code_order (levelOp_natural _ c)]

theorem levelOp_levelPerm (fields g) (c : Config) : LevelPerm (α := α) fields g (levelOp fields c) :=
  levelOp_cases fields c (fun _ _ _ => .refl _) (mergeLevel_inv_perm fields g)
    (fun path l _ => sortLevel_inv_perm g path l)
    (fun path l h => (sortLevel_inv_perm g path _).trans (mergeLevel_inv_perm fields g path l h))

theorem postprocessWith_inv_perm (fields g) (c : Config) (items : List (Item α)) (path : List α)
    (h : AgreeFile fields g items) :
    (invList g path (postprocessWith fields [.mergeExternBlocks, .sortSemantically] c items)).Perm
      (invList g path items) := by
  rw [postprocessWith_eq_levelOp]
  exact treeFile_inv_perm (levelOp_levelPerm fields g c) path items h

/-- For every module tree without mixed unsafety, every configuration and module path: the inventory
(plain items, module headers, and every foreign item with its block's attributes, ABI and unsafety,
each with its module path) of the processed bindings is a permutation of that of the unprocessed ones. -/
theorem C18_inventory_perm_partial (c : Config) (items : List (Item α)) (path : List α)
    (h : mixedUnsafety items = false) :
    (invList id path (postprocess c items)).Perm (invList id path items) := by
  rw [postprocess_eq_postprocessWith]
  exact postprocessWith_inv_perm _ id c items path
    (agreeFile_of_not_mixed C18_key_has_attrs_abi.1 C18_key_has_attrs_abi.2 items h)

/-- The same with the unsafety of the block erased, for every module tree. -/
theorem C18_inventory_perm_modulo_unsafety (c : Config) (items : List (Item α)) (path : List α) :
    (invList (fun _ => false) path (postprocess c items)).Perm (invList (fun _ => false) path items) := by
  rw [postprocess_eq_postprocessWith]
  exact postprocessWith_inv_perm _ _ c items path
    (agreeFile_of_forall (agree_of_keyEq C18_key_has_attrs_abi.1 C18_key_has_attrs_abi.2 fun _ _ _ => rfl) items)

theorem C18_inventory_perm_of_unsafety_key (fields : List MergeField) (ha : MergeField.attrs ∈ fields)
    (hb : MergeField.abi ∈ fields) (hu : MergeField.unsafety ∈ fields)
    (c : Config) (items : List (Item α)) (path : List α) :
    (invList id path (postprocessWith fields [.mergeExternBlocks, .sortSemantically] c items)).Perm
      (invList id path items) :=
  postprocessWith_inv_perm fields id c items path
    (agreeFile_of_forall (agree_of_keyEq ha hb fun _ _ => keyEq_unsafety hu) items)

theorem C18_merge_keeps_nonforeign (fields) (l : List (Item α)) :
    others (mergeLevel fields l) = others l := others_mergeLevel fields l

/-- `extern "C" { fn raw(); }` (from a module raw line) followed by bindgen's
`unsafe extern "C" { fn f(); }` in one module -/
def witnessMixed : List (Item Nat) :=
  [.module 9 [.foreign ⟨0, 0, false, [1]⟩, .foreign ⟨0, 0, true, [2]⟩]]

theorem witnessMixed_in_region : mixedUnsafety witnessMixed = true := by decide

/-- With the key (attrs, abi) merging moves `f` out of its `unsafe extern` block into the non-`unsafe`
one: the tuple (attrs, abi, unsafe, f) is lost. -/
theorem C18_fails_on_mixed_unsafety :
    ¬ (invList id [] (postprocessWith [.attrs, .abi] [.mergeExternBlocks, .sortSemantically]
        { merge := true, sort := false } witnessMixed)).Perm (invList id [] witnessMixed) :=
  fun h => absurd (h.mem_iff.mpr (show Entry.tuple [9] { attrs := 0, abi := 0, unsafety := true, item := 2 } ∈ _ by
    decide +kernel)) (by decide +kernel)

/-- the generated key is one of the two the theorems above are about (else they must be revisited) -/
theorem C18_key_cases : mergeKeyFields = [.attrs, .abi] ∨ mergeKeyFields = [.attrs, .abi, .unsafety] := by
  decide

theorem C18_blocks_of_level (fields) (c : Config) (l : List (Item α)) :
    blocksOf (levelOp fields c l) = if c.merge then mergeBlocks fields (blocksOf l) else blocksOf l := by
  obtain ⟨m, s⟩ := c
  cases m <;> cases s <;>
    simp [levelOp, blocksOf_sortLevel, blocksOf_mergeLevel]

/-- Every block `b` of a merged level has the attributes, ABI and unsafety of an input block `f` of that
level, and its items are exactly those of the input blocks whose key equals `f`'s, in input order. -/
theorem C18_merge_same_key_only (fields) (s : Bool) (l : List (Item α)) :
    ∀ b ∈ blocksOf (levelOp fields ⟨true, s⟩ l), ∃ f ∈ blocksOf l, SameHead b f ∧
      b.items = itemsOf ((blocksOf l).filter (keyEq fields f)) := by
  rw [C18_blocks_of_level]
  exact mergeBlocks_spec fields (blocksOf l)

theorem C18_merge_keys_distinct (fields) (s : Bool) (l : List (Item α)) :
    (blocksOf (levelOp fields ⟨true, s⟩ l)).Pairwise (fun a b => keyEq fields a b = false) := by
  rw [C18_blocks_of_level]
  exact mergeBlocks_pairwise fields (blocksOf l)

theorem C18_blocks_untouched_without_merge (fields) (s : Bool) (l : List (Item α)) :
    blocksOf (levelOp fields ⟨false, s⟩ l) = blocksOf l := by
  rw [C18_blocks_of_level]; rfl

theorem C18_sort_perm (l : List (Item α)) : (sortLevel l).Perm l := stableSort_perm _ l

theorem C18_sort_sorted (l : List (Item α)) : (sortLevel l).Pairwise (fun a b => a.rank ≤ b.rank) :=
  stableSort_sorted _ l

theorem C18_sort_stable (l : List (Item α)) (k : Nat) :
    (sortLevel l).filter (fun a => a.rank == k) = l.filter (fun a => a.rank == k) :=
  stableSort_filter_key _ k l

/-- every stable sort by rank returns the model's list: modelling `sort_by_key` by insertion sort loses
nothing -/
theorem C18_stable_sort_unique (l l' : List (Item α)) (hs : l'.Pairwise (fun a b => a.rank ≤ b.rank))
    (hst : ∀ k, l'.filter (fun a => a.rank == k) = l.filter (fun a => a.rank == k)) : l' = sortLevel l :=
  stableSort_unique _ hs hst

/-- For every configuration, the non-foreign items selected by any predicate that fixes the rank (all
plain items of one `syn::Item` variant; all inline modules) appear in the processed level exactly as in
the unprocessed one. -/
theorem C18_level_order_within_kind (fields) (c : Config) (q : Item α → Bool) (r : Nat)
    (hq : ∀ x, q x = true → x.rank = r ∧ x.isForeign = false) (l : List (Item α)) :
    (levelOp fields c l).filter q = l.filter q := by
  have hm : (mergeLevel fields l).filter q = l.filter q := by
    have e : ∀ l : List (Item α), (others l).filter q = l.filter q := fun l =>
      filter_filter_of_imp fun x _ hx => by rw [(hq x hx).2]; rfl
    rw [← e, others_mergeLevel, e]
  have hs : ∀ l : List (Item α), (sortLevel l).filter q = l.filter q := fun l =>
    stableSort_filter Item.rank q r l fun x _ hx => (hq x hx).1
  exact levelOp_cases (P := fun L => (L l).filter q = l.filter q) fields c rfl hm (hs l) ((hs _).trans hm)

def isPlainOfKind (k : ItemKind) : Item α → Bool
  | .plain k' _ => k' == k
  | _ => false

theorem C18_sort_stable_within_kind (fields) (c : Config) (k : ItemKind) (l : List (Item α)) :
    (levelOp fields c l).filter (isPlainOfKind k) = l.filter (isPlainOfKind k) := by
  apply C18_level_order_within_kind fields c _ (sortRank k)
  intro x hx
  cases x with
  | plain k' _ => exact ⟨congrArg sortRank (eq_of_beq hx), rfl⟩
  | _ => cases hx

theorem C18_merge_idem (fields) (l : List (Item α)) :
    mergeLevel fields (mergeLevel fields l) = mergeLevel fields l := mergeLevel_idem fields l

theorem C18_sort_idem (l : List (Item α)) : sortLevel (sortLevel l) = sortLevel l := stableSort_idem _ l

/-- more than idempotence: any level already in rank order, hand-ordered or processed before, is left as
it is -/
theorem C18_sort_of_sorted (l : List (Item α)) (h : l.Pairwise (fun a b => a.rank ≤ b.rank)) :
    sortLevel l = l := stableSort_of_sorted _ l h

theorem C18_sort_length_mem (l : List (Item α)) :
    (sortLevel l).length = l.length ∧ ∀ x, x ∈ sortLevel l ↔ x ∈ l :=
  ⟨(C18_sort_perm l).length_eq, fun _ => (C18_sort_perm l).mem_iff⟩

/-- merge ∘ sort ∘ merge: once the blocks have distinct keys and come last, merging again only
moves the blocks to the end again, which no rank class sees -/
theorem sort_merge_idem (fields) (l : List (Item α)) :
    sortLevel (mergeLevel fields (sortLevel (mergeLevel fields l))) = sortLevel (mergeLevel fields l) := by
  have hd : (blocksOf (mergeLevel fields l)).Pairwise (fun a b => keyEq fields a b = false) := by
    rw [blocksOf_mergeLevel]
    exact mergeBlocks_pairwise fields _
  have hy := mergeLevel_of_pairwise fields _ hd
  rw [mergeLevel_idem] at hy
  rw [mergeLevel_of_pairwise fields (sortLevel _) (by rw [blocksOf_sortLevel]; exact hd)]
  refine (stableSort_comm_of_filter Item.rank (fun l => others l ++ l.filter Item.isForeign) (fun k l => ?_)
    _).trans (congrArg sortLevel hy.symm)
  rw [List.filter_append, others, others, filter_comm, filter_comm Item.isForeign]

theorem levelOp_idem (fields) (c : Config) (l : List (Item α)) :
    levelOp fields c (levelOp fields c l) = levelOp fields c l :=
  levelOp_cases (P := fun L => L (L l) = L l) fields c rfl (C18_merge_idem fields l) (C18_sort_idem l)
    (sort_merge_idem fields l)

theorem postprocessWith_idem (fields) (c : Config) (items : List (Item α)) :
    postprocessWith fields [.mergeExternBlocks, .sortSemantically] c
      (postprocessWith fields [.mergeExternBlocks, .sortSemantically] c items)
      = postprocessWith fields [.mergeExternBlocks, .sortSemantically] c items := by
  rw [postprocessWith_eq_levelOp, postprocessWith_eq_levelOp]
  exact treeFile_idem (levelOp_natural _ c) (levelOp_idem _ c) items

theorem C18_post_idem (c : Config) (items : List (Item α)) :
    postprocess c (postprocess c items) = postprocess c items := by
  simp only [postprocess_eq_postprocessWith]
  exact postprocessWith_idem _ c items

theorem C18_off_is_identity (items : List (Item α)) : postprocess ⟨false, false⟩ items = items := by
  rw [C18_postprocess_eq_levelOp]
  exact treeFile_id items

/-- C18 in full on the model, as a function of the compared fields: inventory with unsafety preserved,
and idempotence.  (Order within a kind, merging only with equal key and order inside blocks,
`C18_level_order_within_kind` and `C18_merge_same_key_only`, hold for every `fields`.) -/
def C18_statement_for (fields : List MergeField) : Prop :=
  ∀ (c : Config) (items : List (Item Nat)) (path : List Nat),
    (invList id path (postprocessWith fields [.mergeExternBlocks, .sortSemantically] c items)).Perm
      (invList id path items) ∧
    postprocessWith fields [.mergeExternBlocks, .sortSemantically] c
      (postprocessWith fields [.mergeExternBlocks, .sortSemantically] c items)
      = postprocessWith fields [.mergeExternBlocks, .sortSemantically] c items

theorem C18_statement_of_unsafety_key : C18_statement_for [.attrs, .abi, .unsafety] := by
  intro c items path
  exact ⟨C18_inventory_perm_of_unsafety_key _ (by decide) (by decide) (by decide) c items path,
    postprocessWith_idem _ c items⟩

theorem C18_statement_fails_today : ¬ C18_statement_for [.attrs, .abi] :=
  fun h => C18_fails_on_mixed_unsafety (h { merge := true, sort := false } witnessMixed []).1

/-- a level with two ABIs, a block attribute, interleaved plain items and a nested module -/
def sampleLevel : List (Item Nat) :=
  [.foreign ⟨0, 1, true, [10]⟩, .plain .fn 20, .plain .type 21, .foreign ⟨0, 2, true, [11]⟩,
   .module 30 [.foreign ⟨5, 1, true, [12]⟩, .plain .const 22, .foreign ⟨5, 1, true, [13]⟩],
   .foreign ⟨0, 1, true, [14, 15]⟩, .plain .struct 23, .plain .fn 24]

example : mixedUnsafety sampleLevel = false := by decide +kernel
example : postprocess ⟨true, true⟩ sampleLevel =
    [.plain .type 21, .plain .struct 23, .plain .fn 20, .plain .fn 24,
     .module 30 [.plain .const 22, .foreign ⟨5, 1, true, [12, 13]⟩],
     .foreign ⟨0, 1, true, [10, 14, 15]⟩, .foreign ⟨0, 2, true, [11]⟩] := by rfl
example : invList id [] (postprocess ⟨true, true⟩ sampleLevel) ≠ invList id [] sampleLevel := by decide +kernel
example : (invList id [] (postprocess ⟨true, true⟩ sampleLevel)).Perm (invList id [] sampleLevel) :=
  C18_inventory_perm_partial _ _ _ (by decide +kernel)
example : postprocessWith [.attrs, .abi] [.mergeExternBlocks, .sortSemantically] ⟨true, false⟩ witnessMixed
    = [.module 9 [.foreign ⟨0, 0, false, [1, 2]⟩]] := by rfl

end BindgenModel.Post

import BindgenModel.Model.Prelude
/-!
# C01 — a helper type that any module uses is defined by the prelude

`C01_prelude_flag_reaches_root`: with the `|=` merge the root's flag is set iff some module of the tree
(any depth, any order) uses the helper type.  `C01_prelude_merges_in_source` is the source obligation
(regenerated `Generated/PreludeFlags.lean`): every `saw_*` flag of `CodegenResult` is merged with `|=`
in `CodegenResult::inner`.  Witnesses: with `=` a later sibling without the type resets the flag, with a
dropped line a nested module's use never reaches the root (seeded changes C01-4 and C01-7).
-/
namespace BindgenModel.Prelude
open BindgenModel.Generated

mutual
theorem C01_prelude_flag_reaches_root : ∀ t : Mod, t.flag .or = t.uses
  | .node own cs => by
    simp only [Mod.flag, Mod.uses]
    exact flagList_or own cs
theorem flagList_or : ∀ (acc : Bool) (cs : List Mod), Mod.flag.flagList .or acc cs = (acc || Mod.uses.usesList cs)
  | acc, [] => by simp [Mod.flag.flagList, Mod.uses.usesList]
  | acc, c :: cs => by
    simp only [Mod.flag.flagList, Mod.uses.usesList, merge]
    rw [flagList_or _ cs, C01_prelude_flag_reaches_root c, Bool.or_assoc]
end

theorem C01_prelude_merges_in_source : preludeFlags.all (fun f => preludeFlagMerge f == .or) = true := by decide +kernel

theorem C01_prelude_now (f : String) (hf : f ∈ preludeFlags) (t : Mod) : t.flag (preludeFlagMerge f) = t.uses := by
  have e : preludeFlagMerge f = .or := by simpa using List.all_eq_true.mp C01_prelude_merges_in_source f hf
  rw [e]
  exact C01_prelude_flag_reaches_root t

theorem C01_prelude_overwrite_loses :
    (Mod.node false [.node true [], .node false []]).flag .overwrite = false ∧
    (Mod.node false [.node true [], .node false []]).uses = true := by decide

theorem C01_prelude_dropped_loses :
    (Mod.node false [.node true []]).flag .dropped = false ∧ (Mod.node false [.node true []]).uses = true := by decide

example : "saw_bitfield_unit" ∈ preludeFlags := by decide +kernel

end BindgenModel.Prelude

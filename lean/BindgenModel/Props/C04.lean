import BindgenModel.Lemmas.Link
import BindgenModel.Lemmas.Lower
/-! # C04 — functions and globals bind the right symbol with a call-compatible signature (partial)

What is proved (about the models of `names_will_be_identical_after_mangling`, the link-name decision
of `Function::codegen` / `Var::codegen`, `fnsig_argument_type` / `fnsig_return_ty`, `FunctionSig::abi`
and the seen-set bookkeeping) and what is not (rustc's/LLVM's ABI lowering, libclang's mangler, the
parser that produces the IR) is spelled out in `checks/manifest.d/C04.json`. -/
namespace BindgenModel.Link

/-- The full statement on the model (symbol half): whatever the renaming, on every target family, the symbol referenced
by the emitted item is libclang's mangled name.  False (`C04_symbol_statement_false`). -/
def C04_symbol_statement : Prop :=
  ∀ (tf : TargetFamily) (f : FnIn) (n : Nat), f.linkOverride = none → f.internal = false →
    f.mangled = some (platformMangle tf f.cc f.name n) →
    symbolReferenced tf f.cc f.canonical (fnLinkAttr f) n = platformMangle tf f.cc f.name n

/-- The attribute is omitted exactly when the names are equal or the mangled name has the decorated form
`prefix ++ canonical ++ suffix` that the calling convention prescribes on some target. -/
theorem C04_namesIdentical_iff (c m : Name) (cc : CallConv) :
    namesIdentical c m cc = true ↔ c = m ∨ PlatformForm c m cc := by
  by_cases hcm : c = m
  · simp [namesIdentical, hcm]
  unfold namesIdentical PlatformForm
  cases manglingShape cc with
  | none => simp [hcm]
  | some ps =>
    obtain ⟨pre, suf⟩ := ps
    -- the chain of early `false`s is the conjunction of the tests
    simp only [hcm, false_or, Option.some.injEq, Prod.mk.injEq, and_assoc, exists_and_left, exists_eq_left',
      Bool.ite_then_false, bne_iff_ne, ne_eq, Decidable.not_not, if_false]
    constructor
    · rintro ⟨-, h2, h3, h4⟩
      refine ⟨_, eq_cons_append_of_head_take h2 h3, ?_⟩
      cases suf with
      | true => exact h4
      | false => exact List.drop_eq_nil_of_le (Nat.le_of_eq (by simpa using h4))
    · rintro ⟨rest, rfl, hr⟩
      refine ⟨by simp, rfl, by simp, ?_⟩
      cases suf with
      | true => simpa using hr
      | false => simp [show rest = [] from hr]

theorem namesIdentical_decorated {c : Name} {cc : CallConv} {pre : UInt8} {suf : Bool}
    (hs : manglingShape cc = some (pre, suf)) (n : Nat) :
    namesIdentical c (pre :: if suf then c ++ atSign :: decimal n else c) cc = true := by
  cases suf with
  | false => exact (C04_namesIdentical_iff _ _ _).2 (.inr ⟨pre, false, hs, [], by simp, rfl⟩)
  | true => exact (C04_namesIdentical_iff _ _ _).2 (.inr ⟨pre, true, hs, _, rfl, suffixOk_at_decimal n⟩)

theorem C04_fn_attr_omitted_iff (f : FnIn) :
    fnLinkAttr f = .none ↔
      f.linkOverride = none ∧ namesIdentical f.canonical (f.mangled.getD f.name) f.cc = true ∧
        (f.internal && f.wrapStatic) = false := by
  unfold fnLinkAttr fnLinkNameAttr
  cases ho : f.linkOverride with
  | some l => simp
  | none =>
    simp only
    cases hn : namesIdentical f.canonical (f.mangled.getD f.name) f.cc <;>
      cases hw : (f.internal && f.wrapStatic) <;> simp

/-- If the Rust name is the C name, the symbol the emitted item refers to is the one libclang reported (or, when it
reported none, the one the backend derives from the C name), on every target family and for every calling convention. -/
theorem C04_link_symbol_correct_partial (tf : TargetFamily) (f : FnIn) (n : Nat)
    (hkeep : f.canonical = f.name) (hov : f.linkOverride = none) (hint : f.internal = false)
    (hm : f.mangled = some (platformMangle tf f.cc f.name n) ∨ f.mangled = none) :
    symbolReferenced tf f.cc f.canonical (fnLinkAttr f) n = platformMangle tf f.cc f.name n := by
  rw [fnLinkAttr_eq f hov hint, symbolReferenced_decision, hkeep]
  rcases hm with hm | hm
  · rw [hm, Option.getD_some, ite_self]
  · rw [hm, Option.getD_none, namesIdentical_refl, if_pos rfl]

theorem C04_var_symbol_correct_partial (tf : TargetFamily) (v : VarIn) (n : Nat)
    (hkeep : v.canonical = v.name) (hov : v.linkOverride = none)
    (hm : v.mangled = some (platformMangle tf .var v.name n) ∨ v.mangled = none) :
    symbolReferenced tf .var v.canonical (varLinkAttr v) n = platformMangle tf .var v.name n := by
  rw [varLinkAttr_eq_fn v hov]
  exact C04_link_symbol_correct_partial tf _ n hkeep rfl rfl hm

/-- Region `renameClash` with the argument bytes `n` (the `@N` of stdcall / fastcall) known: the attribute is omitted although the backend does not produce
the C symbol `m` from the Rust name `c`. -/
def renameClashN (tf : TargetFamily) (c m : Name) (cc : CallConv) (n : Nat) : Bool :=
  namesIdentical c m cc && platformMangle tf cc c n != m

theorem C04_link_symbol_correct_iff (tf : TargetFamily) (f : FnIn) (m : Name) (n : Nat)
    (hov : f.linkOverride = none) (hint : f.internal = false) (hm : f.mangled = some m) :
    symbolReferenced tf f.cc f.canonical (fnLinkAttr f) n = m ↔ renameClashN tf f.canonical m f.cc n = false := by
  rw [fnLinkAttr_eq f hov hint, symbolReferenced_decision, hm, Option.getD_some, renameClashN]
  cases namesIdentical f.canonical m f.cc <;> simp

theorem C04_renameClash_elf_iff (c m : Name) (cc : CallConv) (n : Nat) :
    renameClashN .elf c m cc n = true ↔ c ≠ m ∧ PlatformForm c m cc := by
  simp only [renameClashN, platformMangle, Bool.and_eq_true, bne_iff_ne, ne_eq, C04_namesIdentical_iff]
  exact and_comm.trans (and_congr_right fun h => or_iff_right h)

/-- On ELF the region predicate the harness uses (`renameClash`, no argument bytes) is the general one. -/
theorem C04_renameClash_elf (c m : Name) (cc : CallConv) (n : Nat) :
    renameClash .elf c m cc = renameClashN .elf c m cc n := by
  simp [renameClash, renameClashN, prefixes, platformMangle]

/-! The decision is not target-aware: witnesses. -/

/-- ELF, a renaming that strips a leading underscore (any name, any C-like convention): the attribute is omitted and the
item refers to the stripped name, not to the C symbol. -/
theorem C04_fails_on_elf_prefix_strip (c : Name) (cc : CallConv) (hs : manglingShape cc = some (us, false))
    (f : FnIn) (n : Nat) (hname : f.name = us :: c) (hcanon : f.canonical = c) (hcc : f.cc = cc)
    (hov : f.linkOverride = none) (hint : f.internal = false)
    (hm : f.mangled = some (platformMangle .elf cc f.name n)) :
    fnLinkAttr f = .none ∧ symbolReferenced .elf cc f.canonical (fnLinkAttr f) n = c ∧
      c ≠ platformMangle .elf cc f.name n := by
  have hattr : fnLinkAttr f = .none := by
    rw [C04_fn_attr_omitted_iff, hov, hint, hm, hcanon, hcc, hname]
    exact ⟨rfl, namesIdentical_decorated hs n, rfl⟩
  rw [hattr, hcanon, hname]
  refine ⟨rfl, rfl, fun h => ?_⟩
  simpa [platformMangle] using congrArg List.length h

/-- DESIGN.md §7 row 8: C function `_foo`, a callback renames it to `foo`, ELF. -/
def witnessElf : FnIn :=
  { name := [95, 102, 111, 111], canonical := [102, 111, 111], mangled := some [95, 102, 111, 111],
    linkOverride := none, cc := .known .C }

theorem C04_fails_on_elf_foo :
    fnLinkAttr witnessElf = .none ∧
      symbolReferenced .elf witnessElf.cc witnessElf.canonical (fnLinkAttr witnessElf) 0 = [102, 111, 111] ∧
      platformMangle .elf witnessElf.cc witnessElf.name 0 = [95, 102, 111, 111] := by
  decide +kernel

theorem C04_symbol_statement_false : ¬ C04_symbol_statement := by
  intro h
  have := h .elf witnessElf 0 rfl rfl rfl
  revert this
  decide +kernel

/-- Mach-O, a renaming that adds an underscore: the names are equal, the attribute is omitted, the backend prepends
another underscore. -/
theorem C04_fails_on_machO_prefix_add (c : Name) (f : FnIn) (n : Nat)
    (hname : f.name = c) (hcanon : f.canonical = us :: c)
    (hov : f.linkOverride = none) (hint : f.internal = false)
    (hm : f.mangled = some (platformMangle .machO f.cc f.name n)) :
    fnLinkAttr f = .none ∧ symbolReferenced .machO f.cc f.canonical (fnLinkAttr f) n = us :: us :: c ∧
      platformMangle .machO f.cc f.name n = us :: c := by
  have hattr : fnLinkAttr f = .none := by
    rw [C04_fn_attr_omitted_iff, hov, hint, hm, hcanon, hname]
    exact ⟨rfl, namesIdentical_refl _ _, rfl⟩
  rw [hattr, hcanon, hname]
  exact ⟨rfl, rfl, rfl⟩

/-- The Mach-O defect without a callback: the C identifier `_` is a Rust keyword, `rust_mangle` makes it `__`, and on
Mach-O / Win32 that is the mangled name.  (Reproduced at symbol-text level with `int _(int);` and
`--target=x86_64-apple-darwin`.) -/
def witnessUnderscore : FnIn :=
  { name := [95], canonical := [95, 95], mangled := some [95, 95], linkOverride := none, cc := .known .C }

theorem C04_fails_on_machO_underscore :
    fnLinkAttr witnessUnderscore = .none ∧
      symbolReferenced .machO witnessUnderscore.cc witnessUnderscore.canonical (fnLinkAttr witnessUnderscore) 0
        = [95, 95, 95] ∧
      platformMangle .machO witnessUnderscore.cc witnessUnderscore.name 0 = [95, 95] ∧
      renameClash .machO witnessUnderscore.canonical [95, 95] witnessUnderscore.cc = true := by
  decide +kernel

/-- `Var::codegen` ignores an explicit link-name override when it emits an `extern static`. -/
theorem C04_var_link_override_ignored (v : VarIn) (l : Name) (h : v.linkOverride = some l) :
    varLinkAttr v = .none := by
  simp [varLinkAttr, h]

/-! The attribute is not emitted needlessly: for the conventions whose decoration the function knows, it is omitted when
the mangled name is what the backend derives from the Rust name (C-like conventions and variables on every target
family; stdcall / fastcall where they are decorated, i.e. 32-bit Windows). -/

/-- The general form: every convention `manglingShape` has an entry for, every target family.  Mach-O is excepted for
the entries that expect a suffix (`ho`; stdcall, fastcall): it prefixes every name and appends nothing. -/
theorem namesIdentical_platformMangle (tf : TargetFamily) (c : Name) (n : Nat) {cc : CallConv} {pre : UInt8}
    {suf : Bool} (hs : manglingShape cc = some (pre, suf)) (ho : tf = .machO → (pre, suf) = (us, false)) :
    namesIdentical c (platformMangle tf cc c n) cc = true := by
  cases tf with
  | elf | win64 => exact namesIdentical_refl c cc
  | machO =>
    cases ho rfl
    exact namesIdentical_decorated hs n
  | win32x86 =>
    by_cases hq : c.head? = some qmark
    · rw [platformMangle_qmark cc n hq]
      exact namesIdentical_refl c cc
    · rw [platformMangle_win32x86_of_shape hs hq]
      exact namesIdentical_decorated hs n

theorem C04_link_attr_minimal_clike (tf : TargetFamily) (c : Name) (cc : CallConv) (n : Nat)
    (hs : manglingShape cc = some (us, false)) (hcc : cc = .var ∨ cc = .known .C ∨ cc = .known .CUnwind) :
    namesIdentical c (platformMangle tf cc c n) cc = true :=
  namesIdentical_platformMangle tf c n hs fun _ => rfl

theorem C04_link_attr_minimal_stdcall (c : Name) (n : Nat) :
    namesIdentical c (platformMangle .win32x86 (.known .Stdcall) c n) (.known .Stdcall) = true :=
  namesIdentical_platformMangle .win32x86 c n rfl nofun

theorem C04_link_attr_minimal_fastcall (c : Name) (n : Nat) :
    namesIdentical c (platformMangle .win32x86 (.known .Fastcall) c n) (.known .Fastcall) = true :=
  namesIdentical_platformMangle .win32x86 c n rfl nofun

/-! One binding per symbol (`functions_seen`, `vars_seen`). -/

theorem emitFnsAux_nodup (skip : FnDecl → Bool) (ds : List FnDecl) (seen counted : List Name) :
    (∀ k ∈ (emitFnsAux skip ds seen counted).map (·.1.key), k ∉ seen) ∧
      ((emitFnsAux skip ds seen counted).map (·.1.key)).Nodup := by
  fun_induction emitFnsAux skip ds seen counted with
  | case1 => simp
  | case2 d rest seen counted h ih => exact ih
  | case3 d rest seen counted h1 h2 ih =>
    exact ⟨fun k hk hm => ih.1 k hk (List.mem_cons_of_mem _ hm), ih.2⟩
  | case4 d rest seen counted h1 h2 k nm ih => exact fresh_nodup_cons (by simpa using h1) ih

theorem C04_seen_dedup (skip : FnDecl → Bool) (ds : List FnDecl) :
    ((emitFns skip ds).map (·.1.key)).Nodup :=
  (emitFnsAux_nodup skip ds [] []).2

theorem emitVarsAux_nodup (cs seen : List Name) :
    (∀ c ∈ emitVarsAux cs seen, c ∉ seen) ∧ (emitVarsAux cs seen).Nodup := by
  fun_induction emitVarsAux cs seen with
  | case1 => simp
  | case2 c rest seen h ih => exact ih
  | case3 c rest seen h ih => exact fresh_nodup_cons (by simpa using h) ih

theorem C04_seen_dedup_vars (cs : List Name) : (emitVars cs).Nodup := (emitVarsAux_nodup cs []).2

theorem emitFnsAux_complete (ds : List FnDecl) (seen counted : List Name) :
    ∀ d ∈ ds, d.key ∈ (emitFnsAux (fun _ => false) ds seen counted).map (·.1.key) ++ seen := by
  fun_induction emitFnsAux (fun _ => false) ds seen counted with
  | case1 => simp
  | case2 d0 rest seen counted h ih =>
    exact List.forall_mem_cons.2 ⟨List.mem_append_right _ (by simpa using h), ih⟩
  | case3 d0 rest seen counted h1 h2 ih => cases h2
  | case4 d0 rest seen counted h1 h2 k nm ih =>
    exact List.forall_mem_cons.2 ⟨List.mem_cons_self, fun d hd => List.perm_middle.mem_iff.1 (ih d hd)⟩

theorem C04_seen_complete (ds : List FnDecl) :
    ∀ d ∈ ds, d.key ∈ (emitFns (fun _ => false) ds).map (·.1.key) := by
  simpa only [emitFns, List.append_nil] using emitFnsAux_complete ds [] []

example : ∃ f : FnIn, f.canonical = f.name ∧ f.linkOverride = none ∧ f.internal = false ∧
    f.mangled = some (platformMangle .win32x86 f.cc f.name 8) ∧ fnLinkAttr f = .none :=
  ⟨{ name := [102], canonical := [102], mangled := some (platformMangle .win32x86 (.known .Stdcall) [102] 8),
     linkOverride := none, cc := .known .Stdcall }, by decide +kernel⟩

example : namesIdentical [102] [95, 102, 64, 56] (.known .Stdcall) = true := by decide +kernel
example : namesIdentical [102] [95, 102, 64] (.known .Stdcall) = false := by decide +kernel
example : namesIdentical [102] [64, 102, 64, 49, 50] (.known .Fastcall) = true := by decide +kernel
example : namesIdentical [102] [95, 102] (.known .Vectorcall) = false := by decide +kernel

end BindgenModel.Link

namespace BindgenModel.Lower
open BindgenModel.Generated

/-- The C type that the emitted Rust parameter type denotes is the adjusted C parameter type. -/
theorem C04_lower_adjusts_param (c : Bool) (t : CTy) : cOf (lowerParam c t) = cParamAdjust c t := by
  rw [lowerParam, cParamAdjust, ← Option.getD_map cOf, cOf_paramArr, cOf_lowerTy]

/-- `void` (also behind typedefs) gives no return type, noreturn gives `!`, otherwise the type itself. -/
theorem C04_lower_adjusts_ret (d : Bool) (t : CTy) : cOf (lowerRet d t) = normRet d t :=
  cOf_lowerRet_of_cOf_lowerTy (cOf_lowerTy t) d

theorem C04_lower_param_nf_partial (c : Bool) (t : CTy) (hnf : NF t = true) (hna : adjArr c t = none) :
    cOf (lowerParam c t) = t := by
  rw [C04_lower_adjusts_param]
  simp [cParamAdjust, hna, norm_of_NF t hnf]

/-- An array parameter decays to a pointer whose pointee is const iff the element or the (typedef'd) array type is. -/
theorem C04_lower_param_array_partial (c ec : Bool) (e : CTy) (n : Nat) (hnf : NF e = true) :
    cOf (lowerParam c (.array ec e n)) = .ptr (ec || c) e := by
  rw [C04_lower_adjusts_param]
  simp [cParamAdjust, adjArr, norm_of_NF e hnf]

theorem C04_lower_param_func_partial (c : Bool) (r : CTy) (as : CTys) (v : Bool)
    (hr : NFRet r = true) (has : NFs as = true) :
    cOf (lowerParam c (.func r as v false)) = .ptr false (.func r as v false) := by
  rw [C04_lower_adjusts_param]
  simp [cParamAdjust, adjArr, norm, normRet_of_NFRet r hr, normParams_of_NFs as has]

theorem C04_lower_ret_nf_partial (t : CTy) (h : NFRet t = true) : cOf (lowerRet false t) = t := by
  rw [C04_lower_adjusts_ret, normRet_of_NFRet t h]

/-- Outside the normal forms the round trip fails: element qualifiers of by-value arrays are lost. -/
theorem C04_lower_loses_array_elem_const :
    cOf (lowerParam false (.ptr false (.array true (.scalar 0) 3))) ≠ .ptr false (.array true (.scalar 0) 3) := by
  simp [lowerParam, paramArr, lowerTy, canon, isFunc, cOf]

theorem C04_lower_ret_void_never (id : Nat) (t : CTy) :
    lowerRet false (.alias id .void) = .unit ∧ lowerRet false .void = .unit ∧ lowerRet true t = .never := by
  simp [lowerRet_eq, canon, isVoid]

/-- Function pointers are `Option`-wrapped exactly once per pointer-to-function level. -/
theorem C04_lower_fnptr (pc : Bool) (r : CTy) (as : CTys) (v d : Bool) :
    lowerTy (.ptr pc (.func r as v d)) = .optFn (lowerRet d r) (lowerParams as) v ∧
      lowerTy (.ptr false (.ptr pc (.func r as v d))) = .rptr false (.optFn (lowerRet d r) (lowerParams as) v) := by
  simp [lowerTy, canon, isFunc]

theorem C04_class_preserved_partial (k : SKind) (h : k ≠ .longDouble) : rClass (lowerScalar k) = cClass k := by
  cases k with
  | longDouble => exact absurd rfl h
  | _ => rfl

/-- Region `long_double_by_value`: a by-value `long double` is rendered `u128`, which rustc passes in two INTEGER
registers while the C callee expects X87 class (memory): every later integer argument is shifted. -/
theorem C04_class_fails_on_long_double :
    rClass (lowerScalar .longDouble) = [.integer, .integer] ∧ cClass .longDouble = [.x87, .x87up] := by
  decide

/-- Among the ABI strings that rustc accepts in `extern "…"`. -/
def rustcAbiStrings : List (List Char) :=
  [['C'], ['s','t','d','c','a','l','l'], ['e','f','i','a','p','i'], ['f','a','s','t','c','a','l','l'],
   ['t','h','i','s','c','a','l','l'], ['v','e','c','t','o','r','c','a','l','l'], ['a','a','p','c','s'],
   ['w','i','n','6','4'], ['s','y','s','v','6','4'], ['C','-','u','n','w','i','n','d'], ['s','y','s','t','e','m'],
   ['c','d','e','c','l'], ['s','y','s','t','e','m','-','u','n','w','i','n','d']]

theorem C04_abi_table_display_injective :
    ∀ a ∈ Abi.all, ∀ b ∈ Abi.all, Abi.display a = Abi.display b → a = b := by decide +kernel

theorem C04_abi_table_all : ∀ a : Abi, a ∈ Abi.all := by intro a; cases a <;> decide +kernel

theorem C04_abi_table_display_known : ∀ a ∈ Abi.all, Abi.display a ∈ rustcAbiStrings := by decide +kernel

theorem C04_abi_table_fromStr_inverse :
    ∀ a ∈ Abi.all, (Abi.fromStrArms.find? (·.1 == Abi.display a)).map (·.2) = some a := by decide +kernel

/-- No ABI has both a feature gate and the variadic restriction: looking up the gate first, as `gateAbi` does, skips no
arm of the `match` in `FunctionSig::abi`. -/
theorem C04_abi_table_gates_disjoint : ∀ a ∈ Abi.all, (abiGate a).isSome → abiNoVariadic a = false := by decide

theorem C04_abi_table_default : getAbi .Default = .known .C ∧ getAbi .C = .known .C ∧ getAbi .Other = .unknown := by
  decide

/-- The decoration table of the link-name decision: the decorations of the 32-bit Windows mangler, for conventions
`get_abi` can produce or an override can name. -/
theorem C04_abi_table_mangling_shapes :
    manglingShapeKnown .C = some ('_', false) ∧ manglingShapeKnown .CUnwind = some ('_', false) ∧
    manglingShapeKnown .Stdcall = some ('_', true) ∧ manglingShapeKnown .Fastcall = some ('@', true) ∧
    manglingShapeVar = ('_', false) ∧
    (∀ a ∈ Abi.all, a ≠ .C → a ≠ .CUnwind → a ≠ .Stdcall → a ≠ .Fastcall → manglingShapeKnown a = none) := by
  decide +kernel

theorem C04_abi_override_respected (ovs : List (Abi × Bool)) (clang : ClangAbi) :
    (∀ a, (a, true) ∈ ovs → ∃ b, chooseAbi ovs clang = .known b ∧ (b, true) ∈ ovs) ∧
    ((∀ p ∈ ovs, p.2 = false) → chooseAbi ovs clang = clang) := by
  unfold chooseAbi
  constructor
  · intro a ha
    cases hf : ovs.find? (·.2) with
    | none => exact absurd (List.find?_eq_none.1 hf _ ha) (by simp)
    | some p =>
      obtain ⟨b, fl⟩ := p
      cases show fl = true from List.find?_some hf
      exact ⟨b, rfl, List.mem_of_find?_eq_some hf⟩
  · intro h
    rw [List.find?_eq_none.2 fun p hp => by simp [h p hp]]

/-- A single override (the only order-independent configuration) wins over clang. -/
theorem C04_abi_override_single (a : Abi) (clang : ClangAbi) : chooseAbi [(a, true)] clang = .known a := by
  simp [chooseAbi]

theorem C04_abi_gate_sound (feat : AbiFeature → Bool) (v : Bool) (x y : ClangAbi)
    (h : gateAbi feat v x = some y) : y = x := by
  -- every arm is `if … then none else some x`
  have arm : ∀ {p : Prop} [Decidable p], (if p then none else some x) = some y → y = x := fun h =>
    (Option.some.inj (Option.ite_none_left_eq_some.1 h).2).symm
  unfold gateAbi at h
  split at h
  · split at h <;> exact arm h
  · exact arm h

/-- Source obligation (regenerated `Generated/Abi.lean`): a calling convention Rust has no name for is answered with
`Err(UnsupportedAbi)`.  With it, `Function::codegen`'s `Ok(ClangAbi::Unknown(_)) => panic!` arm and
`ToTokens for ClangAbi`'s panic are unreachable (C12). -/
theorem C04_abi_unknown_rejected : abiUnknownRejected = true := by decide

theorem C04_abi_never_unknown (ovs : List (Abi × Bool)) (feat : AbiFeature → Bool) (v : Bool) (clang : ClangAbi) :
    sigAbi ovs feat v clang ≠ some .unknown := by
  intro h
  have hx := C04_abi_gate_sound feat v _ _ h
  unfold sigAbi at h
  rw [← hx] at h
  simp [gateAbi, C04_abi_unknown_rejected] at h

example : sigAbi [] (fun _ => true) false .unknown = none := by decide
example : sigAbi [(.CUnwind, true)] (fun _ => true) false (.known .C) = some (.known .CUnwind) := by decide
example : sigAbi [] (fun _ => false) false (.known .Vectorcall) = none := by decide
example : sigAbi [] (fun _ => true) true (.known .Win64) = none := by decide
example : NF (.ptr true (.alias 3 (.comp 1))) = true ∧ NFs (.cons false (.ptr false .void) .nil) = true := by decide

end BindgenModel.Lower

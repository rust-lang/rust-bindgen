import BindgenModel.Model.LayoutTests
/-!
# C06 — embedded layout assertions are complete and state the C compiler's numbers

"The numbers are what the C compiler computes for the selected target" is the modelled-input
assumption (`CompDesc.layout`, `FieldDesc.data … off` are libclang's numbers); it is validated on
every run against `clang --target=T -S -emit-llvm`.
-/
namespace BindgenModel.C06
open BindgenModel.LayoutTests

def Demanded (o : Opts) (c : CompDesc) : Prop :=
  o.layoutTests = true ∧ c.nonTypeTParams = false ∧ c.noTemplateParams = true ∧ c.forwardDecl = false

def C06_statement : Prop :=
  (∀ o c size align, Demanded o c → c.layout = some (size, align) →
      ∃ it, compAsserts o c = some it ∧ Assert.size size ∈ it.asserts ∧ Assert.align align ∈ it.asserts ∧
        (c.isOpaque = false → ∀ idx off, c.fields[idx]? = some (.data true (some off)) →
          Assert.offset idx (off / 8) ∈ it.asserts)) ∧
  (∀ o c, o.layoutTests = false → compAsserts o c = none) ∧
  (∀ o c, emitAll { o with layoutTests := false } c = (emitAll o c).filter (fun i => !i.isAssertion))

theorem C06_nothing_when_disabled (o : Opts) (c : CompDesc) (h : o.layoutTests = false) :
    compAsserts o c = none := by
  unfold compAsserts
  simp [h]

theorem C06_none_outside_premises (o : Opts) (c : CompDesc)
    (h : c.forwardDecl = true ∨ c.noTemplateParams = false ∨ c.nonTypeTParams = true ∨ c.layout = none) :
    compAsserts o c = none := by
  unfold compAsserts
  rcases h with h | h | h | h <;> simp [h]

theorem compAsserts_of_demanded {o : Opts} {c : CompDesc} (hd : Demanded o c) :
    compAsserts o c = c.layout.map fun sa => ⟨formOf o,
      .size sa.1 :: .align sa.2 :: (if c.isOpaque then [] else offsetAsserts 0 c.fields)⟩ := by
  obtain ⟨h1, h2, h3, h4⟩ := hd
  unfold compAsserts
  cases c.layout <;> simp [h1, h2, h3, h4]

theorem demanded_of_compAsserts {o : Opts} {c : CompDesc} {it : AssertItem} (h : compAsserts o c = some it) :
    Demanded o c := by
  have hd : ¬ o.layoutTests = false := fun hx =>
    Option.some_ne_none it (h.symm.trans (C06_nothing_when_disabled o c hx))
  have hn := fun hx => Option.some_ne_none it (h.symm.trans (C06_none_outside_premises o c hx))
  simp only [imp_false, not_or, Bool.not_eq_true, Bool.not_eq_false] at hd hn
  exact ⟨hd, hn.2.2.1, hn.2.1, hn.1⟩

theorem compAsserts_eq_some {o : Opts} {c : CompDesc} {it : AssertItem} (h : compAsserts o c = some it) :
    ∃ size align, c.layout = some (size, align) ∧
      it = ⟨formOf o, .size size :: .align align :: (if c.isOpaque then [] else offsetAsserts 0 c.fields)⟩ := by
  rw [compAsserts_of_demanded (demanded_of_compAsserts h)] at h
  obtain ⟨⟨size, align⟩, hl, rfl⟩ := Option.map_eq_some_iff.1 h
  exact ⟨size, align, hl, rfl⟩

theorem mem_offsetAsserts_iff {fs : List FieldDesc} {base : Nat} {a : Assert} :
    a ∈ offsetAsserts base fs ↔
      ∃ idx off, fs[idx]? = some (.data true (some off)) ∧ a = .offset (idx + base) (off / 8) := by
  fun_induction offsetAsserts base fs with
  | case1 => simp
  -- an index into `f :: fs` is `0` or a successor; plain `simp` is several times slower to check here
  | case2 base off fs ih =>
    refine Iff.trans ?_ Nat.or_exists_add_one
    simp only [ih, List.mem_cons, List.getElem?_cons_zero, List.getElem?_cons_succ, Option.some.injEq,
      FieldDesc.data.injEq, true_and, exists_eq_left', Nat.zero_add, Nat.add_assoc, Nat.add_comm 1]
  | case3 base f fs hf ih =>
    refine Iff.trans ?_ Nat.or_exists_add_one
    simp only [ih, List.getElem?_cons_zero, List.getElem?_cons_succ, Option.some.injEq, Nat.add_assoc,
      Nat.add_comm 1]
    exact ⟨.inr, fun h => h.elim (fun ⟨off, e, _⟩ => (hf off e).elim) id⟩

/-- **complete**: size, alignment and the offset of every named non-bit-field member with a
known offset are asserted, with libclang's numbers -/
theorem C06_complete (o : Opts) (c : CompDesc) (size align : Nat) (hd : Demanded o c)
    (hl : c.layout = some (size, align)) :
    ∃ it, compAsserts o c = some it ∧ it.form = formOf o ∧
      Assert.size size ∈ it.asserts ∧ Assert.align align ∈ it.asserts ∧
      (c.isOpaque = false → ∀ idx off, c.fields[idx]? = some (.data true (some off)) →
        Assert.offset idx (off / 8) ∈ it.asserts) := by
  refine ⟨_, (compAsserts_of_demanded hd).trans (congrArg _ hl), rfl, by simp, by simp, ?_⟩
  intro hop idx off hf
  have : Assert.offset idx (off / 8) ∈ offsetAsserts 0 c.fields :=
    mem_offsetAsserts_iff.2 ⟨idx, off, hf, rfl⟩
  simp [hop, this]

/-- **sound**: nothing else is asserted, and each assertion carries the number of the record description -/
theorem C06_sound (o : Opts) (c : CompDesc) (it : AssertItem) (h : compAsserts o c = some it) (a : Assert)
    (ha : a ∈ it.asserts) :
    ∃ size align, c.layout = some (size, align) ∧
      (a = .size size ∨ a = .align align ∨
        (c.isOpaque = false ∧ ∃ idx off, a = .offset idx (off / 8) ∧ c.fields[idx]? = some (.data true (some off)))) := by
  obtain ⟨size, align, hl, rfl⟩ := compAsserts_eq_some h
  refine ⟨size, align, hl, ?_⟩
  simp only [List.mem_cons] at ha
  rcases ha with ha | ha | ha
  · exact .inl ha
  · exact .inr (.inl ha)
  · cases hop : c.isOpaque with
    | true => simp [hop] at ha
    | false =>
      rw [hop, if_neg Bool.false_ne_true, mem_offsetAsserts_iff] at ha
      obtain ⟨idx, off, hf, e⟩ := ha
      exact .inr (.inr ⟨rfl, idx, off, e, hf⟩)

theorem C06_inst_nothing_when_disabled (o : Opts) (i : InstDesc) (h : o.layoutTests = false) :
    instAsserts o i = none := by
  simp [instAsserts, h]

/-- switching the option off removes the assertion item and nothing else -/
theorem C06_only_asserts_change (o : Opts) (c : CompDesc) :
    emitAll { o with layoutTests := false } c = (emitAll o c).filter (fun i => !i.isAssertion) := by
  unfold emitAll
  split
  · rfl
  · rw [C06_nothing_when_disabled { o with layoutTests := false } c rfl]
    cases compAsserts o c <;> simp [Item.isAssertion]

theorem C06_inst_asserts (o : Opts) (i : InstDesc) (size align : Nat) (ht : o.layoutTests = true)
    (hop : i.isOpaque = false) (hu : i.usesTemplateParams = false) (hl : i.layout = some (size, align)) :
    instAsserts o i = some { form := formOf o, asserts := [.size size, .align align] } := by
  simp [instAsserts, ht, hop, hu, hl]

/-- the const-block form exactly when the target has `offset_of!` -/
theorem C06_form (o : Opts) : formOf o = .constBlock ↔ o.offsetOf = true := by
  unfold formOf
  cases o.offsetOf <;> simp

theorem C06_statement_holds : C06_statement := by
  refine ⟨?_, ?_, ?_⟩
  · intro o c size align hd hl
    obtain ⟨it, h1, _, h3, h4, h5⟩ := C06_complete o c size align hd hl
    exact ⟨it, h1, h3, h4, h5⟩
  · exact C06_nothing_when_disabled
  · exact C06_only_asserts_change

theorem C06_dedup_first (seen : List String) (b : String) (bs : List String) (h : timesSeen seen b = 0) :
    dedupNames seen (b :: bs) = b :: dedupNames (b :: seen) bs := by
  simp [dedupNames, h]

theorem C06_dedup_can_collide : dedupNames [] ["X", "X", "X_1"] = ["X", "X_1", "X_1"] := by decide +kernel

/-- named data members with a known offset -/
def asserted : FieldDesc → Bool
  | .data true (some _) => true
  | _ => false

/-- one offset assertion per named non-bit-field member with a known offset: none is asserted twice,
none for a bit-field unit or an anonymous member (with `mem_offsetAsserts_iff`: a bijection) -/
theorem C06_offset_count (fs : List FieldDesc) (base : Nat) :
    (offsetAsserts base fs).length = (fs.filter asserted).length := by
  fun_induction offsetAsserts base fs with
  | case1 => rfl
  | case2 base off fs ih => simp [List.filter_cons, asserted, ih]
  | case3 base f fs hf ih =>
    -- the catch-all of `offsetAsserts` is the catch-all of `asserted`
    have : asserted f = false := by
      unfold asserted
      split
      · exact (hf _ rfl).elim
      · rfl
    simp [this, ih]

theorem offsetAsserts_idx_ge (fs : List FieldDesc) (base idx n : Nat)
    (h : Assert.offset idx n ∈ offsetAsserts base fs) : base ≤ idx := by
  obtain ⟨i, off, -, e⟩ := mem_offsetAsserts_iff.1 h
  injection e with e1 _
  omega

theorem offsetAsserts_only_offsets (fs : List FieldDesc) (base : Nat) (a : Assert)
    (h : a ∈ offsetAsserts base fs) : ∃ idx n, a = .offset idx n := by
  obtain ⟨i, off, -, e⟩ := mem_offsetAsserts_iff.1 h
  exact ⟨_, _, e⟩

theorem C06_block_shape (o : Opts) (c : CompDesc) (it : AssertItem) (h : compAsserts o c = some it) :
    ∃ size align, c.layout = some (size, align) ∧
      it.asserts = .size size :: .align align :: (if c.isOpaque then [] else offsetAsserts 0 c.fields) ∧
      it.asserts.length = 2 + (if c.isOpaque then 0 else (c.fields.filter asserted).length) := by
  obtain ⟨size, align, hl, rfl⟩ := compAsserts_eq_some h
  refine ⟨size, align, hl, rfl, ?_⟩
  cases c.isOpaque
  · simp [C06_offset_count]
    omega
  · rfl

theorem C06_no_named_members (o : Opts) (c : CompDesc) (it : AssertItem) (h : compAsserts o c = some it)
    (hn : ∀ f ∈ c.fields, asserted f = false) : it.asserts.length = 2 := by
  obtain ⟨_, _, _, _, hlen⟩ := C06_block_shape o c it h
  have : c.fields.filter asserted = [] := List.filter_eq_nil_iff.2 (fun f hf => by simp [hn f hf])
  rw [hlen, this]
  cases c.isOpaque <;> rfl

theorem C06_dedup_length (seen bs : List String) : (dedupNames seen bs).length = bs.length := by
  induction bs generalizing seen with
  | nil => rfl
  | cons b bs ih => simp [dedupNames, ih]

example : compAsserts { layoutTests := true, offsetOf := true }
    { layout := some (24, 8), fields := [.unit, .data true (some 64), .data true none, .data true (some 128)] } =
    some { form := .constBlock, asserts := [.size 24, .align 8, .offset 1 8, .offset 3 16] } := by decide

end BindgenModel.C06

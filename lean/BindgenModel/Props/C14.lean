import BindgenModel.Generated.FeaturesObl
import BindgenModel.Generated.FeatureSites
/-!
# C14 — bindings use only features of the selected Rust target, monotonically

About `Model/Features.lean` (model of `bindgen/features.rs` and of the feature synchronisation /
edition check of `Builder::generate`), for every minor version in ℕ, every patch number and every
edition.  The general theorems hold for any feature table; the ground truth (`stabilised`,
`editionStabilised`, `Construct.requires` in `Model/FeaturesSpec.lean`) is tied to the table found in
the source by the per-feature `decide` obligations of `Generated/FeaturesObl.lean`, and the
code-generation sites to the flags by the per-site obligations of `Generated/FeatureSites.lean`.
-/
namespace BindgenModel.Features
open BindgenModel.Generated

/-! ## `RustFeatures::new`: characterisation, monotonicity -/

theorem foldl_true {α : Type} (step : (Feature → Bool) → α → Feature → Bool) (P : α → Feature → Prop)
    (hstep : ∀ acc x f, step acc x f = true ↔ acc f = true ∨ P x f)
    (xs : List α) (acc : Feature → Bool) (f : Feature) :
    xs.foldl step acc f = true ↔ acc f = true ∨ ∃ x ∈ xs, P x f := by
  induction xs generalizing acc with
  | nil => simp
  | cons x xs ih => simp only [List.foldl_cons, ih, hstep, List.mem_cons, exists_eq_or_imp, or_assoc]

theorem setTrue_true (acc : Feature → Bool) (g f : Feature) :
    setTrue acc g f = true ↔ acc f = true ∨ g = f := by
  by_cases h : f = g
  · simp [setTrue, h]
  · simp [setTrue, h, Ne.symm h]

theorem applyEntries_true (es : List FeatEntry) (e : Edition) (acc : Feature → Bool) (f : Feature) :
    applyEntries es e acc f = true ↔
      acc f = true ∨ ∃ en ∈ es, en.feature = f ∧ edOk en.editions e = true := by
  refine foldl_true _ (fun en f => en.feature = f ∧ edOk en.editions e = true) (fun acc en f => ?_) es acc f
  cases edOk en.editions e <;> simp [setTrue_true]

theorem featuresNew_true (tbl : Table) (t : Target) (e : Edition) (f : Feature) :
    featuresNew tbl t e f = true ↔
      (isCompatible t .nightly = true ∧ ∃ en ∈ tbl.nightly, en.feature = f ∧ edOk en.editions e = true) ∨
      (∃ row ∈ tbl.rows, isCompatible t (.stable row.1 0) = true ∧
        ∃ en ∈ row.2, en.feature = f ∧ edOk en.editions e = true) := by
  unfold featuresNew
  rw [foldl_true _ fun row f => isCompatible t (.stable row.1 0) = true ∧
    ∃ en ∈ row.2, en.feature = f ∧ edOk en.editions e = true]
  · refine or_congr ?_ Iff.rfl
    cases isCompatible t .nightly
    · simp
    · simp [applyEntries_true]
  · intro acc row f
    cases isCompatible t (.stable row.1 0)
    · simp
    · simp [applyEntries_true]

/-- `is_compatible` is `other ≤ self` in the order of `Target.le`; this is transitivity -/
theorem isCompatible_mono {t t' : Target} (o : Target) (h : Target.le t t' = true) :
    isCompatible t o = true → isCompatible t' o = true := by
  cases t' with
  | nightly => exact fun _ => rfl
  | stable m' p' =>
    cases t with
    | nightly => cases h
    | stable m p =>
      cases o with
      | nightly => exact id
      | stable k q =>
        simp only [Target.le, isCompatible, decide_eq_true_eq] at h ⊢
        exact fun hk => Nat.le_trans hk h

theorem isCompatible_nightly {t : Target} (h : isCompatible t .nightly = true) : t = .nightly := by
  cases t with
  | nightly => rfl
  | stable => cases h

theorem C14_monotone (tbl : Table) (t t' : Target) (e : Edition) (f : Feature)
    (h : Target.le t t' = true) :
    featuresNew tbl t e f = true → featuresNew tbl t' e f = true := by
  simp only [featuresNew_true]
  rintro (⟨hc, hex⟩ | ⟨row, hr, hc, hex⟩)
  · exact Or.inl ⟨isCompatible_mono _ h hc, hex⟩
  · exact Or.inr ⟨row, hr, isCompatible_mono _ h hc, hex⟩

/-- `is_compatible` does not look at patch numbers, so both sides unfold to the same fold -/
theorem C14_patch_irrelevant (tbl : Table) (m p p' : Nat) (e : Edition) :
    featuresNew tbl (.stable m p) e = featuresNew tbl (.stable m p') e := rfl

/-! ## soundness against the stabilisation table -/

theorem edSub_ok {entry truth : List Edition} {e : Edition}
    (hs : edSub entry truth = true) (h : edOk entry e = true) : edOk truth e = true := by
  simp only [edSub, edOk, Bool.or_eq_true, Bool.and_eq_true, Bool.not_eq_true', List.all_eq_true] at hs h ⊢
  rcases hs with hs | ⟨hne, hall⟩
  · exact .inl hs
  · exact .inr (hall e (by simpa [hne] using h))

theorem since_le_nightly (s : Since) : s.le .nightly = true := by cases s <;> rfl

theorem since_le_of_row {s : Since} {k : Nat} {t : Target} (h : sinceLeMinor s k = true)
    (hc : isCompatible t (.stable k 0) = true) : s.le t = true := by
  cases s with
  | nightlyOnly => cases h
  | minor m =>
    cases t with
    | nightly => rfl
    | stable m' p =>
      simp only [sinceLeMinor, isCompatible, Since.le, decide_eq_true_eq] at h hc ⊢
      exact Nat.le_trans h hc

theorem sound_of_table (tbl : Table) (t : Target) (e : Edition) (f : Feature)
    (hf : featureSound tbl f = true) :
    featuresNew tbl t e f = true → (stabilised f).allows t e = true := by
  simp only [featureSound, Bool.and_eq_true, List.all_eq_true, Bool.or_eq_true, Bool.not_eq_true',
    decide_eq_false_iff_not] at hf
  obtain ⟨hN, hR⟩ := hf
  rw [featuresNew_true, Stab.allows, Bool.and_eq_true]
  rintro (⟨hc, en, hen, hfe, hed⟩ | ⟨row, hr, hc, en, hen, hfe, hed⟩)
  · rw [isCompatible_nightly hc]
    exact ⟨since_le_nightly _, edSub_ok ((hN en hen).resolve_left (· hfe)) hed⟩
  · obtain ⟨h1, h2⟩ := (hR row hr en hen).resolve_left (· hfe)
    exact ⟨since_le_of_row h1 hc, edSub_ok h2 hed⟩

theorem C14_sound (t : Target) (e : Edition) (f : Feature) :
    featuresNew theTable t e f = true →
      (stabilised f).since.le t = true ∧ edOk (stabilised f).editions e = true := by
  intro h
  simpa [Stab.allows] using sound_of_table theTable t e f (features_sound_all f) h

theorem C14_stable_has_no_nightly_feature (m p : Nat) (e : Edition) (f : Feature)
    (hf : (stabilised f).since = .nightlyOnly) : featuresNew theTable (.stable m p) e f = false := by
  cases h : featuresNew theTable (.stable m p) e f with
  | false => rfl
  | true =>
    have := (C14_sound _ _ _ h).1
    rw [hf] at this
    cases this

/-! ## the edition check of `Builder::generate` -/

theorem isAvailable_stable (e : Edition) (m p : Nat) :
    isAvailable e (.stable m p) = true ↔ e.firstMinor ≤ m := by
  simp [isAvailable, Target.minor]
theorem isAvailable_stable_false (e : Edition) (m p : Nat) :
    isAvailable e (.stable m p) = false ↔ m < e.firstMinor := by
  simp [isAvailable, Target.minor]
theorem isAvailable_nightly (e : Edition) : isAvailable e .nightly = true := rfl

theorem C14_edition_rejected_iff (tbl : Table) (t : Target) (e : Edition) :
    (resolve tbl t (some e) = .unsupportedEdition e t ↔ isAvailable e t = false) ∧
    (isAvailable e t = true → resolve tbl t (some e) = .ok e (featuresNew tbl t e)) := by
  unfold resolve
  cases h : isAvailable e t <;> simp [h]

theorem C14_edition_rejected_ground_truth (m p : Nat) (e : Edition) :
    resolve theTable (.stable m p) (some e) = .unsupportedEdition e (.stable m p) ↔ m < editionStabilised e := by
  rw [(C14_edition_rejected_iff theTable (.stable m p) e).1, isAvailable_stable_false]
  have := editions_sound_all e
  simp only [editionSound, beq_iff_eq] at this
  rw [this]

theorem C14_nightly_accepts_every_edition (tbl : Table) (e : Edition) :
    resolve tbl .nightly (some e) = .ok e (featuresNew tbl .nightly e) :=
  (C14_edition_rejected_iff tbl .nightly e).2 (isAvailable_nightly e)

/-- Edition 2024 requires `unsafe extern`. -/
theorem C14_edition2024_has_unsafe_extern (t : Target) (h : isAvailable .e2024 t = true) :
    featuresNew theTable t .e2024 .unsafe_extern_blocks = true := by
  -- the flag is on at the first release with the edition, hence from there on
  refine C14_monotone theTable (.stable Edition.e2024.firstMinor 0) t _ _ ?_ (by decide)
  cases t with
  | nightly => rfl
  | stable m p => exact decide_eq_true ((isAvailable_stable ..).1 h)

/-! ## `LATEST_STABLE_RUST` and `latest_edition` -/

theorem latestFold_spec (rows : List (Nat × List FeatEntry)) (st : Nat × Option Nat) :
    let r := rows.foldl (fun (st : Nat × Option Nat) row =>
      if st.1 < row.1 then (row.1, some row.1) else st) st
    st.1 ≤ r.1 ∧ (∀ row ∈ rows, row.1 ≤ r.1) ∧
      (r = st ∨ ∃ row ∈ rows, r = (row.1, some row.1)) := by
  induction rows generalizing st with
  | nil => simp
  | cons row rows ih =>
    simp only [List.foldl_cons, List.mem_cons, forall_eq_or_imp, exists_eq_or_imp]
    by_cases hlt : st.1 < row.1
    · rw [if_pos hlt]
      obtain ⟨h1, h2, h3⟩ := ih (row.1, some row.1)
      exact ⟨Nat.le_trans (Nat.le_of_lt hlt) h1, ⟨h1, h2⟩, .inr h3⟩
    · rw [if_neg hlt]
      obtain ⟨h1, h2, h3⟩ := ih st
      exact ⟨h1, ⟨Nat.le_trans (Nat.le_of_not_lt hlt) h1, h2⟩, h3.imp_right .inr⟩

theorem latestStable_is_max (tbl : Table) (m : Nat) (h : latestStableMinor tbl.rows = some m) :
    (∃ row ∈ tbl.rows, row.1 = m) ∧ ∀ row ∈ tbl.rows, row.1 ≤ m := by
  unfold latestStableMinor at h
  obtain ⟨-, h2, h3 | ⟨row, hr, h3⟩⟩ := latestFold_spec tbl.rows (0, none)
  · rw [h3] at h
    cases h
  · rw [h3] at h h2
    cases h
    exact ⟨⟨row, hr, rfl⟩, h2⟩

theorem find?_reverse_of_pairwise {α : Type} {R : α → α → Prop} {l : List α} (hs : l.Pairwise R)
    {p : α → Bool} {b : α} (h : l.reverse.find? p = some b) :
    p b = true ∧ ∀ a ∈ l, p a = true → a = b ∨ R a b := by
  obtain ⟨hb, as, bs, hsplit, hnot⟩ := List.find?_eq_some_iff_append.1 h
  obtain rfl : l = bs.reverse ++ b :: as.reverse := by simpa using congrArg List.reverse hsplit
  refine ⟨hb, fun a ha hpa => ?_⟩
  rcases List.mem_append.1 ha with hbs | hcons
  · exact .inr ((List.pairwise_append.1 hs).2.2 a hbs b (List.mem_cons_self ..))
  · rcases List.mem_cons.1 hcons with rfl | has
    · exact .inl rfl
    · have := hnot a (List.mem_reverse.1 has)
      simp [hpa] at this

theorem latestEdition_spec (t : Target) (e : Edition) (h : latestEdition t = some e) :
    isAvailable e t = true ∧ ∀ e', isAvailable e' t = true → e'.year ≤ e.year := by
  obtain ⟨hav, hmax⟩ := find?_reverse_of_pairwise editions_sorted (p := (isAvailable · t)) h
  refine ⟨hav, fun e' he' => ?_⟩
  rcases hmax e' (editions_complete e') he' with rfl | hlt
  · exact Nat.le_refl _
  · exact Nat.le_of_lt hlt.1

/-- With no `--rust-target` the CLI build uses `LATEST_STABLE_RUST`, the row with the greatest minor;
with no `--rust-edition`, `Builder::generate` uses the newest edition available for the target. -/
theorem C14_default_is_latest (tbl : Table) (t : Target) :
    (defaultTarget tbl = some t →
      ∃ m, t = .stable m 0 ∧ (∃ row ∈ tbl.rows, row.1 = m) ∧ ∀ row ∈ tbl.rows, row.1 ≤ m) ∧
    (∀ e fs, resolve tbl t none = .ok e fs →
      fs = featuresNew tbl t e ∧ isAvailable e t = true ∧ ∀ e', isAvailable e' t = true → e'.year ≤ e.year) := by
  constructor
  · intro h
    obtain ⟨m, hm, rfl⟩ := Option.map_eq_some_iff.1 h
    exact ⟨m, rfl, latestStable_is_max tbl m hm⟩
  · intro e fs h
    simp only [resolve] at h
    split at h
    · cases h
    · next hl =>
      cases h
      exact ⟨rfl, latestEdition_spec t _ hl⟩

theorem C14_default_concrete :
    defaultTarget theTable = some (.stable 82 0) ∧ latestEdition (.stable 82 0) = some .e2021 ∧
    earliestStable theTable = some (.stable 51 0) := by decide

/-- Every target accepted by `RustTarget::stable` (not below the earliest release, 1.51) has an
edition, so the `.expect(..)` in `latest_edition` cannot fire. -/
theorem C14_latestEdition_defined (t : Target) (h : t.lt (.stable 51 0) = false) :
    (latestEdition t).isSome = true := by
  cases t with
  | nightly => decide
  | stable m p =>
    have hm : 51 ≤ m := by
      simp only [Target.lt, Bool.or_eq_false_iff, decide_eq_false_iff_not] at h
      exact Nat.le_of_not_lt h.1
    unfold latestEdition latestEditionIn
    rw [List.find?_isSome]
    exact ⟨.e2018, by decide, (isAvailable_stable ..).2 (Nat.le_trans (by decide) hm)⟩

/-! ## `RustTarget::from_str` -/

theorem finish_ok {earliest : Target} {m p : Nat} {t : Target} (h : finish earliest m p = .ok t) :
    t = .stable m p ∧ t.lt earliest = false := by
  unfold finish stableCtor at h
  cases hl : (Target.stable m p).lt earliest with
  | true => simp [hl] at h
  | false =>
    simp only [hl, Bool.false_eq_true, if_false, ParseRes.ok.injEq] at h
    exact h ▸ ⟨rfl, hl⟩

theorem finish_ne_panic (earliest : Target) (m p : Nat) : finish earliest m p ≠ .panic := by
  unfold finish
  split <;> nofun

theorem adjust_ok {decr : DecrKind} {earliest : Target} {checks isN : Bool} {m p : Nat} {t : Target} :
    adjust decr earliest checks isN m p = .ok t → t.lt earliest = false := by
  fun_cases adjust decr earliest checks isN m p
  · nofun
  · nofun
  all_goals exact fun h => (finish_ok h).2

theorem adjust_panic_iff (decr : DecrKind) (earliest : Target) (checks isN : Bool) (m p : Nat) :
    adjust decr earliest checks isN m p = .panic ↔
      decr = .unchecked ∧ checks = true ∧ isN = true ∧ m = 0 := by
  fun_cases adjust decr earliest checks isN m p <;> simp_all [finish_ne_panic]

theorem parseVersion_ok {decr : DecrKind} {earliest : Target} {checks isN : Bool} {v : List Char}
    {t : Target} : parseVersion decr earliest checks v isN = .ok t → t.lt earliest = false := by
  fun_cases parseVersion decr earliest checks v isN
  · nofun
  · nofun
  · nofun
  · exact adjust_ok

theorem parseVersion_panic_iff (decr : DecrKind) (earliest : Target) (checks : Bool) (v : List Char) (isN : Bool) :
    parseVersion decr earliest checks v isN = .panic ↔
      decr = .unchecked ∧ checks = true ∧ isN = true ∧ versionMinorZero v = true := by
  unfold versionMinorZero
  fun_cases parseVersion decr earliest checks v isN <;> simp_all [adjust_panic_iff]

theorem preOk_nightly : preOk sNightly = true := by decide

theorem C14_fromStr_ok_valid (decr : DecrKind) (earliest : Target) (checks : Bool) (s : List Char)
    (t : Target) (h : fromStr decr earliest checks s = .ok t) :
    t = .nightly ∨ t.lt earliest = false := by
  revert h
  fun_cases fromStr decr earliest checks s
  · rintro ⟨⟩
    exact .inl rfl
  · nofun
  · exact fun h => .inr (parseVersion_ok h)

theorem fromStr_panic_iff (decr : DecrKind) (earliest : Target) (checks : Bool) (s : List Char) :
    fromStr decr earliest checks s = .panic ↔
      decr = .unchecked ∧ checks = true ∧ regionNightlyMinorZero s = true := by
  fun_cases fromStr decr earliest checks s
  · next hs =>
    have : regionNightlyMinorZero sNightly = false := by decide
    simp [hs, this]
  · next hpre =>
    have : (splitPre s).2 ≠ sNightly := fun h => by simp [h, preOk_nightly] at hpre
    simp [regionNightlyMinorZero, this]
  · simp [regionNightlyMinorZero, parseVersion_panic_iff]

/-- With the unchecked `minor -= 1` and overflow checks on, `from_str` panics exactly on
`1.0[.p]-nightly`-shaped inputs. -/
theorem C14_fromStr_panics_iff (earliest : Target) (s : List Char) :
    fromStr .unchecked earliest true s = .panic ↔ regionNightlyMinorZero s = true := by
  simp [fromStr_panic_iff]

theorem C14_fromStr_checked_never_panics (earliest : Target) (checks : Bool) (s : List Char) :
    fromStr .checked earliest checks s ≠ .panic := by
  simp [fromStr_panic_iff]

def w_1_0_nightly : List Char := ['1', '.', '0', '-', 'n', 'i', 'g', 'h', 't', 'l', 'y']

theorem C14_fromStr_fails_on_1_0_nightly_dbg :
    fromStr .unchecked (.stable 51 0) true w_1_0_nightly = .panic := by decide

/-- Without overflow checks `1.0-nightly` wraps to `1.(2^64-1).(2^64-1)`: every stable feature is
selected although the version predates all of them. -/
theorem C14_fromStr_fails_on_1_0_nightly_rel :
    fromStr .unchecked (.stable 51 0) false w_1_0_nightly = .ok (.stable u64Max u64Max) := by decide

theorem C14_fromStr_1_0_nightly_fixed :
    fromStr .checked (.stable 51 0) true w_1_0_nightly = .err .tooEarly := by decide

/-! ## what code generation emits -/

theorem requires_eq_stabilised (c : Construct) :
    ∃ f, c.needs = [f] ∧ c.requires = stabilised f := by
  cases c <;> exact ⟨_, rfl, rfl⟩

theorem impliesIn_sound (tbl : Table) (g f : Feature) (h : impliesIn tbl g f = true)
    (t : Target) (e : Edition) : featuresNew tbl t e g = true → featuresNew tbl t e f = true := by
  unfold impliesIn at h
  simp only [Bool.or_eq_true, decide_eq_true_eq, Bool.and_eq_true, List.all_eq_true, List.any_eq_true,
    Bool.not_eq_true', decide_eq_false_iff_not] at h
  rcases h with rfl | ⟨hg, hf⟩
  · exact id
  · simp only [featuresNew_true]
    -- `g` is in no release row, so it is on only for nightly, which is compatible with every row
    rintro (⟨hc, -⟩ | ⟨row, hr, -, en, hen, hfe, -⟩)
    · obtain rfl := isCompatible_nightly hc
      have hed : ∀ en : FeatEntry, en.editions.isEmpty = true → edOk en.editions e = true :=
        fun en h => by simp [edOk, h]
      rcases hf with ⟨en, hen, hfe, hem⟩ | ⟨row, hr, en, hen, hfe, hem⟩
      · exact Or.inl ⟨rfl, en, hen, hfe, hed en hem⟩
      · exact Or.inr ⟨row, hr, rfl, en, hen, hfe, hed en hem⟩
    · exact absurd hfe (hg row hr en hen)

/-- Every inventoried code-generation site that emits a gated construct does so only when the construct
is usable for the target and edition; the `CStr` path is left to `C14_emits_sound_partial`. -/
theorem C14_gate_sites (s : GateSite) (hs : s ∈ gateSites) (hc : s.construct ≠ .coreFfiCStr)
    (t : Target) (e : Edition) (hg : ∀ g ∈ s.guards, featuresNew theTable t e g = true) :
    s.construct.requires.allows t e = true := by
  have hok := gate_sites_all s hs hc
  obtain ⟨f, hn, hr⟩ := requires_eq_stabilised s.construct
  unfold siteOk at hok
  rw [hn] at hok
  simp only [List.all_cons, List.all_nil, Bool.and_true, List.any_eq_true] at hok
  obtain ⟨g, hgm, himp⟩ := hok
  rw [hr]
  exact sound_of_table theTable t e f (features_sound_all f) (impliesIn_sound theTable g f himp t e (hg g hgm))

theorem emits_flag (gate : Bool) (fs : Feature → Bool) (o : EmitOpts) (c : Construct)
    (hc : c ≠ .coreFfiCStr) (h : emits gate fs o c = true) :
    ∃ f, fs f = true ∧ stabilised f = c.requires := by
  cases c <;> simp only [emits, cstrOn, Bool.and_eq_true, Bool.or_eq_true, Bool.not_eq_true'] at h
  case coreFfiCStr => exact absurd rfl hc
  case unsafeExternBlock | offsetOf => exact ⟨_, h, rfl⟩
  case constCStrUnchecked =>
    obtain ⟨⟨⟨-, hcc⟩, -⟩, -⟩ := h
    exact ⟨_, hcc, rfl⟩
  -- either flag will do: both are nightly-only, like the construct
  case ptrMetadata => exact h.2.elim (⟨_, ·, rfl⟩) (⟨_, ·, rfl⟩)
  case cstrLiteral | coreFfiCType | abiThiscall | abiVectorcall | abiCUnwind | abiEfiapi | layoutForPtr =>
    exact ⟨_, h.2, rfl⟩

/-- On the decision model `emits` of the gate sites, every construct emitted for `(t, e)` is usable for
`(t, e)`: outright if codegen gates the `CStr` path on `core_ffi_c` (`gate = true`), otherwise outside
`regionCoreCStr` (`--use-core --generate-cstr`, target 1.59 to 1.63). -/
theorem C14_emits_sound_partial (gate : Bool) (t : Target) (e : Edition) (o : EmitOpts) (c : Construct)
    (hreg : gate = true ∨ regionCoreCStr t o = false ∨ c ≠ .coreFfiCStr)
    (h : emits gate (featuresNew theTable t e) o c = true) : c.requires.allows t e = true := by
  have S := fun f => sound_of_table theTable t e f (features_sound_all f)
  by_cases hc : c = .coreFfiCStr
  · subst hc
    simp only [emits, cstrOn, Bool.and_eq_true, Bool.or_eq_true, Bool.not_eq_true'] at h
    obtain ⟨hu, ⟨hg, hcc⟩, hgate⟩ := h
    rcases hreg with rfl | hreg | hreg
    · -- with the gate, `--use-core` asks for `core_ffi_c`, which has the record of `core::ffi::CStr`
      simp only [Bool.true_eq_false, hu, false_or] at hgate
      exact S _ hgate
    · -- without it, `const_cstr` gives 1.59 and being outside the region then gives 1.64
      have hcs := S _ hcc
      cases t with
      | nightly => rfl
      | stable m p =>
        simp only [regionCoreCStr, hu, hg, Bool.true_and, Bool.and_eq_false_iff,
          decide_eq_false_iff_not] at hreg
        simp only [Stab.allows, stabilised, Construct.requires, Since.le, edOk, List.isEmpty_nil,
          Bool.true_or, Bool.and_true, decide_eq_true_eq] at hcs ⊢
        exact Nat.le_of_not_lt (hreg.resolve_left (· hcs))
    · exact absurd rfl hreg
  · obtain ⟨f, hf, hr⟩ := emits_flag gate _ o c hc h
    exact hr ▸ S f hf

/-- `--rust-target 1.60 --use-core --generate-cstr`, ungated: the model emits `::core::ffi::CStr`, which
exists since 1.64. -/
theorem C14_emits_fails_on_core_cstr :
    emits false (featuresNew theTable (.stable 60 0) .e2021) ⟨true, true, false, false⟩ .coreFfiCStr = true ∧
    (Construct.requires .coreFfiCStr).allows (.stable 60 0) .e2021 = false := by decide

theorem C14_core_cstr_region_exact (m p : Nat) (e : Edition) (o : EmitOpts)
    (h : regionCoreCStr (.stable m p) o = true) :
    emits false (featuresNew theTable (.stable m p) e) o .coreFfiCStr = true ∧
    (Construct.requires .coreFfiCStr).allows (.stable m p) e = false := by
  simp only [regionCoreCStr, Bool.and_eq_true, decide_eq_true_eq] at h
  obtain ⟨⟨hu, hg⟩, h59, h64⟩ := h
  -- `const_cstr` is on at 1.59 in every edition, hence from there on
  have hcs : featuresNew theTable (.stable m p) e .const_cstr = true :=
    C14_monotone theTable (.stable 59 0) _ e _ (decide_eq_true h59) (by cases e <;> decide)
  constructor
  · simp [emits, cstrOn, hu, hg, hcs]
  · simp only [Stab.allows, Construct.requires, Since.le, Bool.and_eq_false_iff, decide_eq_false_iff_not]
    exact .inl (Nat.not_le_of_lt h64)

/-! ## monotonicity at the level of emitted constructs -/

theorem cstrOn_mono (gate : Bool) (fs fs' : Feature → Bool) (o : EmitOpts)
    (hm : ∀ f, fs f = true → fs' f = true) (h : cstrOn gate fs o = true) : cstrOn gate fs' o = true := by
  simp only [cstrOn, Bool.and_eq_true, Bool.or_eq_true] at h ⊢
  exact ⟨⟨h.1.1, hm _ h.1.2⟩, h.2.imp_right (hm _)⟩

/-- the exception is the one construct that a flag (`literal_cstr`) switches off -/
theorem emits_mono (gate : Bool) (fs fs' : Feature → Bool) (o : EmitOpts) (c : Construct)
    (hm : ∀ f, fs f = true → fs' f = true) (hc : c ≠ .constCStrUnchecked)
    (h : emits gate fs o c = true) : emits gate fs' o c = true := by
  have hcs := cstrOn_mono gate fs fs' o hm
  cases c <;> simp only [emits, Bool.and_eq_true, Bool.or_eq_true] at h ⊢
  case constCStrUnchecked => exact absurd rfl hc
  case unsafeExternBlock => exact hm _ h
  case offsetOf => exact hm _ h
  case cstrLiteral => exact ⟨hcs h.1, hm _ h.2⟩
  case coreFfiCStr => exact ⟨h.1, hcs h.2⟩
  case ptrMetadata => exact ⟨h.1, h.2.imp (hm _) (hm _)⟩
  all_goals exact ⟨h.1, hm _ h.2⟩

/-- The exception is by design: a later target replaces `CStr::from_bytes_with_nul_unchecked` constants
by C-string literals (`C14_cstr_constants_persist`). -/
theorem C14_emits_monotone (gate : Bool) (tbl : Table) (t t' : Target) (e : Edition) (o : EmitOpts)
    (c : Construct) (hle : Target.le t t' = true) (hc : c ≠ .constCStrUnchecked)
    (h : emits gate (featuresNew tbl t e) o c = true) : emits gate (featuresNew tbl t' e) o c = true :=
  emits_mono gate _ _ o c (fun f => C14_monotone tbl t t' e f hle) hc h

theorem C14_cstr_constants_persist (gate : Bool) (tbl : Table) (t t' : Target) (e : Edition) (o : EmitOpts)
    (hle : Target.le t t' = true)
    (h : emits gate (featuresNew tbl t e) o .constCStrUnchecked = true) :
    emits gate (featuresNew tbl t' e) o .constCStrUnchecked = true ∨
    emits gate (featuresNew tbl t' e) o .cstrLiteral = true := by
  simp only [emits, Bool.and_eq_true, Bool.not_eq_true'] at h ⊢
  have hon := cstrOn_mono gate _ _ o (fun f => C14_monotone tbl t t' e f hle) h.1
  cases featuresNew tbl t' e .literal_cstr with
  | true => exact Or.inr ⟨hon, rfl⟩
  | false => exact Or.inl ⟨hon, rfl⟩

example : emits true (featuresNew theTable (.stable 59 0) .e2021) ⟨false, true, false, false⟩ .constCStrUnchecked = true ∧
    emits true (featuresNew theTable (.stable 77 0) .e2021) ⟨false, true, false, false⟩ .constCStrUnchecked = false ∧
    emits true (featuresNew theTable (.stable 77 0) .e2021) ⟨false, true, false, false⟩ .cstrLiteral = true := by decide

example : featuresNew theTable (.stable 77 3) .e2021 .literal_cstr = true ∧
    featuresNew theTable (.stable 77 3) .e2018 .literal_cstr = false ∧
    featuresNew theTable (.stable 76 0) .e2021 .offset_of = false ∧
    featuresNew theTable .nightly .e2018 .ptr_metadata = true := by decide
example : resolve theTable (.stable 84 0) (some .e2024) = .unsupportedEdition .e2024 (.stable 84 0) :=
  (C14_edition_rejected_ground_truth 84 0 .e2024).mpr (by decide)
example : regionCoreCStr (.stable 60 0) ⟨true, true, false, false⟩ = true := by decide
example : regionNightlyMinorZero w_1_0_nightly = true := by decide
example : gateSites.any (fun s => s.construct == .ptrMetadata && s.guards == [.layout_for_ptr]) = true := by
  decide

end BindgenModel.Features

import BindgenModel.Lemmas.Worklist
/-!
# C07 — inferred type facts are the least fixed point; declaration order is irrelevant

Generic theorems about the model of `analysis::analyze` (`Model/Worklist.lean`), for **every**
finite node set, lattice of finite height, rule and schedule.  The per-analysis obligations
(`Lawful`: lattice laws, `reads_only`, `reads_deps`, `mono`) are discharged in
`Props/C07Instances.lean`: all but `reads_deps` for every analysis in normal form, `reads_deps` under
the per-graph condition `readsCovered`.
-/
namespace BindgenModel.Worklist

variable {N L : Type} [DecidableEq N] [DecidableEq L]

/-- `analysis::analyze` terminates: the loop empties its work-list within `fuel` steps -/
theorem C07_terminates (F : Framework N L) (h : Lawful F)
    (hd : ∀ n ∈ F.nodes, ∀ m ∈ F.deps n, m ∈ F.nodes) (wl : List N) (hwl : ∀ n ∈ wl, n ∈ F.nodes) :
    (run F (fuel F (fun _ => F.bot) wl) (fun _ => F.bot) wl).2 = [] :=
  run_terminates F h.core hd _ _ wl hwl (Nat.le_refl _)

/-- a node that starts on the work-list and whose own reads are covered is stable in the result, whatever the
dependency table does for the other nodes -/
theorem C07_stable_at (F : Framework N L) (h : LawfulCore F)
    (hd : ∀ n ∈ F.nodes, ∀ m ∈ F.deps n, m ∈ F.nodes) (wl : List N) (hwl : ∀ n ∈ wl, n ∈ F.nodes)
    (n : N) (hn : n ∈ wl) (hcov : ∀ m ∈ F.reads n, n ∈ F.deps m) : Stable F (analyze F wl) n := by
  have hfin := run_stable_at F h n hcov (fuel F (fun _ => F.bot) wl) (fun _ => F.bot) wl (absurd hn)
  rw [run_terminates F h hd _ _ wl hwl (Nat.le_refl _)] at hfin
  exact hfin List.not_mem_nil

theorem C07_stable (F : Framework N L) (h : Lawful F)
    (hd : ∀ n ∈ F.nodes, ∀ m ∈ F.deps n, m ∈ F.nodes) (wl : List N)
    (hwl : ∀ n ∈ wl, n ∈ F.nodes) (hall : ∀ n ∈ F.nodes, n ∈ wl) :
    ∀ n ∈ F.nodes, Stable F (analyze F wl) n :=
  fun n hn => C07_stable_at F h.core hd wl hwl n (hall n hn) fun m hm => h.reads_deps n m hm hn

/-- "re-applying any rule to the final answer changes no fact" -/
theorem C07_reapply_noop (F : Framework N L) (h : Lawful F)
    (hd : ∀ n ∈ F.nodes, ∀ m ∈ F.deps n, m ∈ F.nodes) (wl : List N)
    (hwl : ∀ n ∈ wl, n ∈ F.nodes) (hall : ∀ n ∈ F.nodes, n ∈ wl) (n : N) (hn : n ∈ F.nodes) :
    F.join (analyze F wl n) (F.rule (analyze F wl) n) = analyze F wl n :=
  h.le_antisymm _ _ (h.join_lub _ _ _ (h.le_refl _) (C07_stable F h hd wl hwl hall n hn)) (h.join_ub_l _ _)

theorem C07_least (F : Framework N L) (h : Lawful F) (hbot : ∀ a, F.le F.bot a = true)
    (wl : List N) (p : N → L) (hp : ∀ n, Stable F p n) :
    ∀ n, F.le (analyze F wl n) (p n) = true :=
  run_le F h.core (fun _ => True) (fun _ _ _ _ => trivial) p (fun n _ => hp n) _ _ wl (fun _ _ => trivial)
    (fun n => hbot (p n))

theorem C07_least_on_nodes (F : Framework N L) (h : Lawful F) (hbot : ∀ a, F.le F.bot a = true)
    (hd : ∀ n ∈ F.nodes, ∀ m ∈ F.deps n, m ∈ F.nodes) (wl : List N) (hwl : ∀ n ∈ wl, n ∈ F.nodes)
    (p : N → L) (hp : ∀ n ∈ F.nodes, Stable F p n) :
    ∀ n, F.le (analyze F wl n) (p n) = true :=
  run_le F h.core (· ∈ F.nodes) hd p hp _ _ wl hwl (fun n => hbot (p n))

/-! What the theorems below say about `analyze` they say about the least stable state of the framework, which
`analyze` computes and of which there is only one: it does not depend on the schedule, on `deps`, on the
numbering of the nodes (`Props/C07Rename.lean`), nor on nodes that no rule of interest reads
(`Props/C09Restriction.lean`). -/

structure IsLeastStable (F : Framework N L) (s : N → L) : Prop where
  stable : ∀ n ∈ F.nodes, Stable F s n
  least : ∀ q : N → L, (∀ n ∈ F.nodes, Stable F q n) → ∀ n, F.le (s n) (q n) = true

omit [DecidableEq N] [DecidableEq L] in
theorem IsLeastStable.unique {F : Framework N L} {s s' : N → L} (hs : IsLeastStable F s)
    (hanti : ∀ a b, F.le a b = true → F.le b a = true → a = b) (hs' : IsLeastStable F s') : s = s' :=
  funext fun n => hanti _ _ (hs.least s' hs'.stable n) (hs'.least s hs.stable n)

theorem analyze_isLeastStable (F : Framework N L) (h : Lawful F) (hbot : ∀ a, F.le F.bot a = true)
    (hd : ∀ n ∈ F.nodes, ∀ m ∈ F.deps n, m ∈ F.nodes) (wl : List N)
    (hwl : ∀ n ∈ wl, n ∈ F.nodes) (hall : ∀ n ∈ F.nodes, n ∈ wl) : IsLeastStable F (analyze F wl) :=
  ⟨C07_stable F h hd wl hwl hall, C07_least_on_nodes F h hbot hd wl hwl⟩

omit [DecidableEq N] [DecidableEq L] in
theorem stable_congr {F G : Framework N L} (hl : G.le = F.le) {s : N → L} {n : N} (hr : G.rule s n = F.rule s n) :
    Stable G s n ↔ Stable F s n := by
  unfold Stable
  rw [hl, hr]

omit [DecidableEq N] [DecidableEq L] in
theorem IsLeastStable.congr {F G : Framework N L} {s : N → L} (hs : IsLeastStable G s)
    (hn : G.nodes = F.nodes) (hl : G.le = F.le) (hr : G.rule = F.rule) : IsLeastStable F s := by
  obtain ⟨hstable, hleast⟩ := hs
  simp only [stable_congr hl (congrFun (congrFun hr _) _), hn, hl] at hstable hleast
  exact ⟨hstable, hleast⟩

/-- there is exactly one "least solution of the inference rules", and `analyze` computes it -/
theorem C07_least_solution_unique (F : Framework N L) (h : Lawful F) (hbot : ∀ a, F.le F.bot a = true)
    (hd : ∀ n ∈ F.nodes, ∀ m ∈ F.deps n, m ∈ F.nodes) (wl : List N)
    (hwl : ∀ n ∈ wl, n ∈ F.nodes) (hall : ∀ n ∈ F.nodes, n ∈ wl)
    (p : N → L) (hp : ∀ n ∈ F.nodes, Stable F p n)
    (hleast : ∀ q : N → L, (∀ n ∈ F.nodes, Stable F q n) → ∀ n, F.le (p n) (q n) = true) :
    p = analyze F wl :=
  IsLeastStable.unique ⟨hp, hleast⟩ h.le_antisymm (analyze_isLeastStable F h hbot hd wl hwl hall)

/-- any two initial work-lists that cover the nodes (LIFO over ascending ids, any permutation) produce
the same facts -/
theorem C07_schedule_irrelevant (F : Framework N L) (h : Lawful F)
    (hbot : ∀ a, F.le F.bot a = true)
    (hd : ∀ n ∈ F.nodes, ∀ m ∈ F.deps n, m ∈ F.nodes) (wl₁ wl₂ : List N)
    (h₁ : ∀ n ∈ wl₁, n ∈ F.nodes) (h₂ : ∀ n ∈ wl₂, n ∈ F.nodes)
    (a₁ : ∀ n ∈ F.nodes, n ∈ wl₁) (a₂ : ∀ n ∈ F.nodes, n ∈ wl₂) :
    analyze F wl₁ = analyze F wl₂ :=
  (analyze_isLeastStable F h hbot hd wl₁ h₁ a₁).unique h.le_antisymm (analyze_isLeastStable F h hbot hd wl₂ h₂ a₂)

/-- the order (or multiplicity) of the dependants inside `each_depending_on` is irrelevant too -/
theorem C07_deps_order_irrelevant (F G : Framework N L) (hF : Lawful F) (hG : Lawful G)
    (hbot : ∀ a, F.le F.bot a = true)
    (hsame : G.nodes = F.nodes ∧ G.bot = F.bot ∧ G.join = F.join ∧ G.le = F.le ∧ G.rule = F.rule)
    (hdF : ∀ n ∈ F.nodes, ∀ m ∈ F.deps n, m ∈ F.nodes)
    (hdG : ∀ n ∈ G.nodes, ∀ m ∈ G.deps n, m ∈ G.nodes)
    (wl : List N) (hwl : ∀ n ∈ wl, n ∈ F.nodes) (hall : ∀ n ∈ F.nodes, n ∈ wl) :
    analyze F wl = analyze G wl := by
  obtain ⟨hn, hb, _, hl, hr⟩ := hsame
  have hsG := analyze_isLeastStable G hG (hl ▸ hb ▸ hbot) hdG wl (hn ▸ hwl) (hn ▸ hall)
  exact (analyze_isLeastStable F hF hbot hdF wl hwl hall).unique hF.le_antisymm (hsG.congr hn hl hr)

/-- the executable array version used by the correspondence driver computes `analyze` -/
theorem C07_analyzeA_eq (F : Framework Nat L) (hd : ∀ n, ∀ m ∈ F.deps n, m ∈ F.nodes) (size : Nat)
    (hsz : ∀ n ∈ F.nodes, n < size) (wl : List Nat) (hwl : ∀ n ∈ wl, n < size) :
    getA F.bot (analyzeA F size wl) = analyze F wl := by
  unfold analyzeA analyze
  rw [(runA_run F size (fun n _ m hm => hsz m (hd n m hm)) _ (Array.replicate size F.bot) wl Array.size_replicate hwl).1,
    getA_replicate]

/-- three nodes `0 → 1 → 2 → 0`, node 2 is a source of `true`; Bool lattice -/
def demo : Framework Nat Bool where
  nodes := [0, 1, 2]
  bot := false
  join := (· || ·)
  le := fun a b => !a || b
  rank := fun b => if b then 1 else 0
  height := 1
  rule := fun s n => match n with
    | 0 => s 1
    | 1 => s 2
    | 2 => true
    | _ => false
  deps := fun n => match n with
    | 1 => [0]
    | 2 => [1]
    | _ => []
  reads := fun n => match n with
    | 0 => [1]
    | 1 => [2]
    | _ => []

theorem demo_lawful : Lawful demo where
  le_refl := by decide
  le_trans := by decide
  le_antisymm := by decide
  join_ub_l := by decide
  join_ub_r := by decide
  join_lub := by decide
  rank_strict := by decide
  rank_le := by decide
  reads_only := by
    intro s s' n hh
    match n with
    | 0 => exact hh 1 (List.mem_cons_self ..)
    | 1 => exact hh 2 (List.mem_cons_self ..)
    | 2 | _ + 3 => rfl
  reads_deps := by
    intro n m hm _
    match n with
    | 0 | 1 =>
      cases List.mem_singleton.mp hm
      exact List.mem_cons_self ..
    | 2 | _ + 3 => cases hm
  mono := by
    intro s s' n hh
    match n with
    | 0 => exact hh 1
    | 1 => exact hh 2
    | 2 | _ + 3 => rfl

example : (analyzeA demo 3 [2, 1, 0]).toList = [true, true, true] := by decide
example : (analyzeA demo 3 [0, 1, 2]).toList = [true, true, true] := by decide

end BindgenModel.Worklist

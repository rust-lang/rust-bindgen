import BindgenModel.Props.C07Instances
/-!
# C01 — every type parameter the fields of a record can mention is one of the record's generics

A record `struct S<T, U>` is emitted with the generics `used_template_params(S)`; its field types are
rendered by walking the same edges the usage analysis considers (`consider_edge` of
`UsedTemplateParameters`: fields, inner types of pointers / arrays / aliases, function signatures, base
members, …).  If a rendered field type named a parameter that is not among the generics, rustc would
answer E0412 ("cannot find type `T` in this scope").

The analysis is the least solution of Horn clauses (`Analyses.templateRule`): fact `(n, j)` = "item `n`
uses the `j`-th parameter".  What C01 needs from it is closure: the facts are closed under every clause,
so a parameter reachable from `n` along considered edges is a generic of `n`.  Closure follows from
stability (`C07_instance_stable`), for every graph and every schedule.

For an instance whose rules are Horn rules only (a 0/1 constant and clauses, the shape of every rule of
`templateInstance`) a fact holds in the solution iff it has a derivation (`solution_iff_derivable`).  "If"
is what keeps rustc from E0412 (a generic that is needed is declared); "only if" is what keeps it from
E0392 on account of the analysis (no generic is declared that no derivation needs).
-/
namespace BindgenModel.C01
open BindgenModel.IR BindgenModel.Analyses BindgenModel.Generated BindgenModel.Worklist

theorem horn_closed (I : Instance) (s : Nat → V) (k : Nat) (hst : Stable I.framework s k)
    (c : List Nat) (hc : c ∈ (I.rules.getD k {}).conj) (hall : ∀ a ∈ c, s a ≠ 0) : s k ≠ 0 :=
  (clauseVal_le s c _).mp (((eval_le_iff _ s _).mp ((I.stable_iff s k).mp hst)).2.2 c hc) hall

theorem const_closed (I : Instance) (s : Nat → V) (k : Nat) (hst : Stable I.framework s k)
    (hc : (I.rules.getD k {}).const ≠ 0) : s k ≠ 0 :=
  ne_zero_of_le ((eval_le_iff _ s _).mp ((I.stable_iff s k).mp hst)).1 hc

/-- each element has the single-atom clause `[next]` -/
def Chain (I : Instance) : List Nat → Prop
  | [] => True
  | [_] => True
  | a :: b :: rest => [b] ∈ (I.rules.getD a {}).conj ∧ Chain I (b :: rest)

theorem chain_closed (I : Instance) (s : Nat → V) (l : List Nat) (hne : l ≠ [])
    (hst : ∀ k ∈ l, Stable I.framework s k) (hch : Chain I l) (hlast : s (l.getLast hne) ≠ 0) :
    s (l.head hne) ≠ 0 := by
  fun_induction Chain I l with
  | case1 => exact absurd rfl hne
  | case2 a => exact hlast
  | case3 a b rest ih =>
    have hb : s b ≠ 0 := ih (List.cons_ne_nil _ _) (fun k hk => hst k (List.mem_cons_of_mem _ hk)) hch.2 hlast
    exact horn_closed I s a (hst a (List.mem_cons_self ..)) [b] hch.1 fun x hx => List.mem_singleton.mp hx ▸ hb

/-- an ordinary item (not a parameter, not an instantiation) has for each considered edge the clause
"`n` uses parameter `j` if the edge's target does" -/
theorem templateRule_edge_clause (g : IR) (ts : TemplateSetup) (n j : Nat) (e : Nat × EdgeKind)
    (hn : ¬ ((g.get n).kind == .type && (g.get n).tk == .typeParam) = true)
    (hi : ¬ ((g.get n).kind == .type && (g.get n).tk == .templateInstantiation) = true)
    (he : e ∈ (g.get n).edges) (hself : e.1 ≠ n) (hcons : considerEdge .usedTemplateParams e.2 = true) :
    [e.1 * ts.tps.length + j] ∈ (templateRule g ts n j).conj := by
  unfold templateRule
  simp only [hn, hi]
  exact List.mem_map.mpr ⟨e, List.mem_filter.mpr ⟨he, by simp [hself, hcons]⟩, rfl⟩

/-- a parameter uses itself -/
theorem templateRule_param_const (g : IR) (ts : TemplateSetup) (n j : Nat)
    (hn : ((g.get n).kind == .type && (g.get n).tk == .typeParam) = true) (hp : ts.tps.getD j 0 = n) :
    (templateRule g ts n j).const = 1 := by
  unfold templateRule
  simp only [hn, hp, if_true, beq_self_eq_true]

theorem mem_templateInstance_initWl {g : IR} {n : Nat} :
    n ∈ (templateInstance g).1.initWl ↔ n ∈ (templateInstance g).1.nodes :=
  List.mem_reverse

/-- In the solution of the usage analysis of any graph, a fact reachable backwards along single-atom
clauses from a parameter's own fact holds; for `templateInstance g` these clauses are the considered edges
of ordinary items (`templateRule_edge_clause`) and the parameter's own fact is the constant
(`templateRule_param_const`).  So every parameter a record's fields can mention along considered edges is
among the record's generics.  The two side conditions are decidable facts about the dependency table the
instance builds (`generate_dependencies`); the driver evaluates them on every dumped graph (`irchk`). -/
theorem C01_generics_closed (g : IR)
    (hcov : (templateInstance g).1.readsCovered = true) (hclosed : (templateInstance g).1.depsClosed = true)
    (l : List Nat) (hne : l ≠ []) (hmem : ∀ k ∈ l, k ∈ (templateInstance g).1.nodes)
    (hch : Chain (templateInstance g).1 l)
    (hparam : (((templateInstance g).1.rules.getD (l.getLast hne) {}).const = 1)) :
    analyze (templateInstance g).1.framework (templateInstance g).1.initWl (l.head hne) ≠ 0 := by
  have hst := C07_instance_stable (templateInstance g).1 hcov hclosed (fun _ => mem_templateInstance_initWl.mp)
    fun _ => mem_templateInstance_initWl.mpr
  apply chain_closed (templateInstance g).1 _ l hne (fun k hk => hst k (hmem k hk)) hch
  exact const_closed (templateInstance g).1 _ _ (hst _ (hmem _ (List.getLast_mem hne))) (by rw [hparam]; decide)

/-- `template<class T> struct S { T *p; }`: item 1 = `T`, 2 = `T *`, 3 = `S` with a field edge to 2 -/
example : (templateSolve
    { items := #[{}, { id := 1, kind := .type, tk := .typeParam, allowlisted := true },
                 { id := 2, kind := .type, tk := .pointer, allowlisted := true, inner := some 1, edges := [(1, .typeReference)] },
                 { id := 3, kind := .type, tk := .comp, allowlisted := true, selfTparams := [1], allTparams := [1],
                   edges := [(2, .field), (1, .templateParameterDefinition)] }] }).lookup 3 = some [1] := by
  decide

inductive Derivable (I : Instance) : Nat → Prop
  | const (k : Nat) (hk : k ∈ I.nodes) (h : (I.rules.getD k {}).const ≠ 0) : Derivable I k
  | clause (k : Nat) (hk : k ∈ I.nodes) (c : List Nat) (hc : c ∈ (I.rules.getD k {}).conj)
      (h : ∀ a ∈ c, Derivable I a) : Derivable I k

theorem hornOnly_spec (I : Instance) (h : I.hornOnly = true) (k : Nat) :
    (I.rules.getD k {}).terms = [] ∧ (I.rules.getD k {}).const ≤ 1 ∧
    ((I.rules.getD k {}).const ≠ 0 ∨ (I.rules.getD k {}).conj ≠ [] → k ∈ I.nodes) := by
  by_cases hk : k < I.rules.size
  · simp only [Instance.hornOnly, List.all_eq_true, List.mem_range] at h
    have := h k hk
    simp only [Bool.and_eq_true, Bool.or_eq_true, decide_eq_true_eq, List.isEmpty_iff, beq_iff_eq,
      List.contains_eq_mem] at this
    exact ⟨this.1.1, this.1.2, fun hne => this.2.resolve_right fun h0 => hne.elim (· h0.1) (· h0.2)⟩
  · have : I.rules.getD k {} = {} := by
      simp [Array.getD, hk]
    rw [this]
    exact ⟨rfl, by decide, fun hne => hne.elim (absurd rfl) (absurd rfl)⟩

theorem derivable_holds (I : Instance) (s : Nat → V) (hst : ∀ k ∈ I.nodes, Stable I.framework s k)
    (k : Nat) (hd : Derivable I k) : s k ≠ 0 := by
  induction hd with
  | const k hk h => exact const_closed I s k (hst k hk) h
  | clause k hk c hc _ ih => exact horn_closed I s k (hst k hk) c hc ih

open Classical in
noncomputable def derivState (I : Instance) : Nat → V := fun k => if Derivable I k then 1 else 0

theorem derivState_of {I : Instance} {k : Nat} (h : Derivable I k) : derivState I k = 1 :=
  if_pos h

theorem derivState_ne_zero {I : Instance} {k : Nat} : derivState I k ≠ 0 ↔ Derivable I k := by
  unfold derivState
  split <;> simp [*]

theorem derivState_stable (I : Instance) (hh : I.hornOnly = true) (k : Nat) :
    Stable I.framework (derivState I) k := by
  obtain ⟨ht, hc1, hnode⟩ := hornOnly_spec I hh k
  rw [Instance.stable_iff, eval_le_iff, ht]
  -- a non-⊥ constant and a clause with derivable atoms are derivations of `k`
  refine ⟨?_, fun _ ht => absurd ht List.not_mem_nil, fun c hc => (clauseVal_le _ c _).mpr fun hall => ?_⟩
  · by_cases h0 : (I.rules.getD k {}).const = 0
    · rw [h0]
      exact Fin.zero_le _
    · rw [derivState_of (.const k (hnode (.inl h0)) h0)]
      exact hc1
  · exact derivState_ne_zero.mpr
      (.clause k (hnode (.inr (List.ne_nil_of_mem hc))) c hc fun a ha => derivState_ne_zero.mp (hall a ha))

theorem solution_iff_derivable (I : Instance) (hh : I.hornOnly = true) (hcov : I.readsCovered = true)
    (hclosed : I.depsClosed = true) (hwl : ∀ n ∈ I.initWl, n ∈ I.nodes) (hall : ∀ n ∈ I.nodes, n ∈ I.initWl)
    (k : Nat) (hk : k ∈ I.nodes) :
    analyze I.framework I.initWl k ≠ 0 ↔ Derivable I k := by
  constructor
  · intro hne
    have hle := C07_instance_least I hclosed hwl (derivState I) (fun k _ => derivState_stable I hh k) k
    exact derivState_ne_zero.mp (ne_zero_of_le hle hne)
  · exact derivable_holds I _ (C07_instance_stable I hcov hclosed hwl hall) k

/-- `solution_iff_derivable` for the template-parameter usage analysis of any graph -/
theorem C01_used_params_exact (g : IR) (hh : (templateInstance g).1.hornOnly = true)
    (hcov : (templateInstance g).1.readsCovered = true) (hclosed : (templateInstance g).1.depsClosed = true)
    (k : Nat) (hk : k ∈ (templateInstance g).1.nodes) :
    analyze (templateInstance g).1.framework (templateInstance g).1.initWl k ≠ 0 ↔
      Derivable (templateInstance g).1 k :=
  solution_iff_derivable _ hh hcov hclosed (fun _ => mem_templateInstance_initWl.mp)
    (fun _ => mem_templateInstance_initWl.mpr) k hk

end BindgenModel.C01

import BindgenModel.Generated.OptionsObl
import BindgenModel.Lemmas.OptCodec
import BindgenModel.Lemmas.InsertSort
/-!
# C13 — builder configuration and command-line flags round-trip

`Model/Opts.lean` is the executable model of `Builder::command_line_flags` (options/mod.rs) and
`builder_from_flags` (options/cli.rs) over the tables the translator regenerates from the source.
The theorems are about the absorbing half, `absorb` (what `builder_from_flags` builds from the lexed
occurrences); the emitting half (`emitSpec`, `commandLineFlags`) and the lexer (`lexArgs`) are run by
`Driver/C13.lean` and no theorem mentions them.

* For any table: a `Builder` method touches only the fields of its `MethodEffect` row
  (`applyMethod_frame`) and a field's new value depends only on its old one (`applyMethod_local`), so
  what `builder_from_flags` leaves in a field is determined by the occurrences of the arms that
  write it (`absorb_field`), those of one arm in command-line order (`byOrder_filter`).
* Per shape of arm, what its occurrences leave in the field (`switch_absorbs`, `list_absorbs`,
  `single_absorbs`); the first two are composed into `C13_switch_field_roundtrip` and
  `C13_list_field_roundtrip`.
* On the generated table, by kernel evaluation: `wf_all`, `sole_all` (and their rows
  `Generated.wf_<field>`, `Generated.sole_<field>`), `flags_distinct`.
* String codecs are in `Lemmas/OptCodec.lean` (imported so that they are built with this module; nothing here uses them).
-/

namespace BindgenModel.Opts
open BindgenModel.Generated

/-- Used at both levels: over the writes of one method, and over the occurrences of a command line. -/
theorem foldl_obs_filter {σ ι β : Type} (step : σ → ι → σ) (obs : σ → β) (touches : ι → Bool)
    (l : List ι)
    (frame : ∀ s, ∀ i ∈ l, touches i = false → obs (step s i) = obs s)
    (loc : ∀ s s' i, touches i = true → obs s = obs s' → obs (step s i) = obs (step s' i))
    (s s' : σ) (h : obs s = obs s') :
    obs (l.foldl step s) = obs ((l.filter touches).foldl step s') := by
  induction l generalizing s s' with
  | nil => exact h
  | cons i l ih =>
    replace ih := ih fun s j hj => frame s j (List.mem_cons_of_mem i hj)
    cases ht : touches i with
    | true => rw [List.filter_cons_of_pos ht]; exact ih _ _ (loc s s' i ht h)
    | false =>
      rw [List.filter_cons_of_neg (by simp [ht])]
      exact ih _ _ ((frame s i List.mem_cons_self ht).trans h)

theorem set_ne {o : Options} {f g : OField} {v : OVal} (h : g ≠ f) : set o f v g = o g := by
  have h' : (f == g) = false := by simpa using fun e => h e.symm
  show (set o f v).get g = o.get g
  simp [set, Options.get, lookup, h']

theorem set_eq {o : Options} {f : OField} {v : OVal} : set o f v f = v := by
  show (set o f v).get f = v
  simp [set, Options.get, lookup]

theorem applyWrite_frame (m : OMethod) (args : List String) (o : Options) (fw : OField × OWrite)
    (g : OField) (h : g ≠ fw.1) : applyWrite m args o fw g = o g := by
  unfold applyWrite
  cases writeVal m args (tyOf fw.1) (o fw.1) fw.2 with
  | none => rfl
  | some v => exact set_ne h

theorem applyWrite_self (m : OMethod) (args : List String) (o : Options) (fw : OField × OWrite) :
    applyWrite m args o fw fw.1 = (writeVal m args (tyOf fw.1) (o fw.1) fw.2).getD (o fw.1) := by
  unfold applyWrite
  cases writeVal m args (tyOf fw.1) (o fw.1) fw.2 with
  | none => rfl
  | some v => simp [set_eq]

theorem applyMethod_filter (m : OMethod) (args : List String) (e : MethodEffect) (he : effOf m = some e)
    (o o' : Options) (g : OField) (h : o g = o' g) :
    applyMethod m args o g = ((e.writes.filter (·.1 == g)).foldl (applyWrite m args) o') g := by
  unfold applyMethod
  rw [he]
  refine foldl_obs_filter (applyWrite m args) (· g) (·.1 == g) e.writes ?_ ?_ o o' h
  · intro s fw _ hfw
    exact applyWrite_frame m args s fw g (fun e => by simp [e] at hfw)
  · intro s s' fw hfw hs
    have hg : fw.1 = g := by simpa using hfw
    subst hg
    rw [applyWrite_self, applyWrite_self, hs]

theorem applyMethod_frame (m : OMethod) (args : List String) (o : Options) (g : OField)
    (h : ∀ e, effOf m = some e → ∀ fw ∈ e.writes, fw.1 ≠ g) : applyMethod m args o g = o g := by
  cases he : effOf m with
  | none => simp [applyMethod, he]
  | some e =>
    rw [applyMethod_filter m args e he o o g rfl, List.filter_eq_nil_iff.mpr]
    · rfl
    · intro fw hfw; simpa using h e he fw hfw

theorem applyMethod_local (m : OMethod) (args : List String) (o o' : Options) (g : OField)
    (h : o g = o' g) : applyMethod m args o g = applyMethod m args o' g := by
  cases he : effOf m with
  | none => simpa [applyMethod, he] using h
  | some e => rw [applyMethod_filter m args e he o o' g h, applyMethod_filter m args e he o' o' g rfl]

/-- the last conjunct of the filter in `otherWriters` -/
def writesField (g : OField) (a : CliArm) : Bool := (armWrites a).any (·.1 == g)

theorem stepOcc_frame (b : Options) (o : Occ) (g : OField) (h : writesField g o.arm = false) :
    stepOcc b o g = b g := by
  unfold stepOcc
  cases hm : o.arm.method with
  | none => rfl
  | some m =>
    apply applyMethod_frame
    intro e he fw hfw hg
    have : writesField g o.arm = true := by
      unfold writesField armWrites
      simp only [hm, Option.bind_some, he, List.any_eq_true, beq_iff_eq]
      exact ⟨fw, hfw, hg⟩
    rw [h] at this; exact absurd this (by decide)

theorem stepOcc_local (b b' : Options) (o : Occ) (g : OField) (h : b g = b' g) :
    stepOcc b o g = stepOcc b' o g := by
  unfold stepOcc
  cases o.arm.method with
  | none => exact h
  | some m => exact applyMethod_local m _ b b' g h

theorem absorb_field (env : Env) (occs : List Occ) (g : OField) :
    absorb env occs g =
      (((byOrder occs).filter fun o => writesField g o.arm).foldl stepOcc (defaults env)) g :=
  foldl_obs_filter stepOcc (· g) (fun o => writesField g o.arm) _ (fun b o _ => stepOcc_frame b o g)
    (fun b b' o _ => stepOcc_local b b' o g) _ _ rfl

theorem absorb_no_writer (env : Env) (occs : List Occ) (g : OField)
    (h : ∀ o ∈ byOrder occs, writesField g o.arm = false) : absorb env occs g = defaults env g := by
  rw [absorb_field]
  have : ((byOrder occs).filter fun o => writesField g o.arm) = [] := by
    rw [List.filter_eq_nil_iff]; intro o ho; simp [h o ho]
  rw [this]; rfl

theorem insertByOrder_eq (x : Nat × Occ) (l : List (Nat × Occ)) :
    insertByOrder x l = Post.insertBy (·.1) x l := by
  induction l with
  | nil => rfl
  | cons y ys ih => simp only [insertByOrder, Post.insertBy, ih]

theorem byOrder_eq (occs : List Occ) :
    byOrder occs =
      (Post.stableSort (·.1) (occs.filterMap fun o => o.arm.order.map fun n => (n, o))).map (·.2) := by
  have : insertByOrder = Post.insertBy (·.1) := funext fun x => funext (insertByOrder_eq x)
  rw [byOrder, this, Post.foldr_insertBy]

theorem mem_filterMap_order {occs : List Occ} {y : Nat × Occ}
    (hy : y ∈ occs.filterMap fun o => o.arm.order.map fun n => (n, o)) :
    y.2 ∈ occs ∧ y.2.arm.order = some y.1 := by
  obtain ⟨o, ho, hf⟩ := List.mem_filterMap.mp hy
  cases hord : o.arm.order with
  | none => simp [hord] at hf
  | some n =>
    simp only [hord, Option.map_some, Option.some.injEq] at hf
    subst hf
    exact ⟨ho, hord⟩

theorem mem_byOrder (occs : List Occ) (o : Occ) (h : o ∈ byOrder occs) :
    o ∈ occs ∧ o.arm.order.isSome = true := by
  rw [byOrder_eq] at h
  obtain ⟨y, hy, rfl⟩ := List.mem_map.mp h
  obtain ⟨ho, hord⟩ := mem_filterMap_order ((Post.stableSort_perm _ _).mem_iff.mp hy)
  exact ⟨ho, by rw [hord]; rfl⟩

/-- Stability: occurrences at one `apply_args!` position (e.g. one arm's) keep their command-line order. -/
theorem byOrder_filter (p : Occ → Bool) (k : Nat) (occs : List Occ)
    (h : ∀ o ∈ occs, p o = true → o.arm.order = some k) :
    (byOrder occs).filter p = occs.filter p := by
  rw [byOrder_eq, List.filter_map, Post.stableSort_filter (fun y : Nat × Occ => y.1) (p ∘ fun y => y.2) k]
  · -- the selected occurrences are applied, so dropping the unapplied ones loses none of them
    induction occs with
    | nil => rfl
    | cons o os ih =>
      have ih' := ih fun z hz => h z (List.mem_cons_of_mem _ hz)
      cases hord : o.arm.order with
      | none =>
        have hp : p o = false :=
          Bool.eq_false_iff.mpr fun hp => by simpa [hord] using h o List.mem_cons_self hp
        rw [List.filterMap_cons, hord, Option.map_none, ih', List.filter_cons_of_neg (by simp [hp])]
      | some n =>
        rw [List.filterMap_cons, hord, Option.map_some, List.filter_cons, List.filter_cons]
        cases hp : p o <;> simp [hp, ih']
  · intro y hy hpy
    obtain ⟨ho, hord⟩ := mem_filterMap_order hy
    exact Option.some.inj (hord.symm.trans (h _ ho hpy))

theorem applyMethod_single (m : OMethod) (args : List String) (o : Options) (e : MethodEffect)
    (f : OField) (w : OWrite) (he : effOf m = some e) (hw : e.writes.filter (·.1 == f) = [(f, w)]) :
    applyMethod m args o f = applyWrite m args o (f, w) f := by
  rw [applyMethod_filter m args e he o o f rfl, hw]; rfl

theorem stepOcc_single (b : Options) (a : CliArm) (vals : List String) (m : OMethod) (e : MethodEffect)
    (f : OField) (w : OWrite) (hm : a.method = some m) (he : effOf m = some e)
    (hw : e.writes.filter (·.1 == f) = [(f, w)]) :
    stepOcc b ⟨a, vals⟩ f = (writeVal m (armArgs a vals) (tyOf f) (b f) w).getD (b f) := by
  unfold stepOcc
  simp only [hm]
  rw [applyMethod_single m _ b e f w he hw, applyWrite_self]

theorem writeVal_const (m : OMethod) (args : List String) (ty : OType) (old : OVal) (c : Bool) :
    writeVal m args ty old (.const c) = some (.b c) := rfl

theorem writeVal_arg_bool (m : OMethod) (args : List String) (old : OVal) :
    writeVal m args .tBool old .arg = some (.b (args.headD "" == "true")) := rfl

theorem writeVal_someArg (m : OMethod) (args : List String) (ty : OType) (old : OVal) :
    writeVal m args ty old .someArg = some (.opt (some (args.headD ""))) := rfl

theorem writeVal_pushArg_strs (m : OMethod) (args : List String) (ty : OType) (l : List String) :
    writeVal m args ty (.strs l) .pushArg = some (.strs (l ++ [args.headD ""])) := by
  cases args <;> rfl

theorem armArgs_fromValue (a : CliArm) (vals : List String) (hc : a.const = .fromValue)
    (hk : a.clap ≠ .switch) : armArgs a vals = vals := by
  unfold armArgs
  rw [hc]
  cases h : a.clap <;> first | rfl | exact absurd h hk

/-- The two disjuncts of `hw`: the `Builder` method stores a constant, or takes a `bool` that the arm
supplies. -/
theorem switch_absorbs (b : Options) (a : CliArm) (vals : List String) (m : OMethod) (e : MethodEffect)
    (f : OField) (c : Bool) (hm : a.method = some m) (he : effOf m = some e)
    (hw : e.writes.filter (·.1 == f) = [(f, .const c)] ∨
          (e.writes.filter (·.1 == f) = [(f, .arg)] ∧ tyOf f = .tBool ∧
            armArgs a vals = [if c then "true" else "false"])) :
    stepOcc b ⟨a, vals⟩ f = .b c := by
  rcases hw with hw | ⟨hw, hty, harg⟩
  · rw [stepOcc_single b a vals m e f _ hm he hw, writeVal_const]
    rfl
  · rw [stepOcc_single b a vals m e f _ hm he hw, harg, hty, writeVal_arg_bool]
    cases c <;> rfl

theorem list_absorbs (b : Options) (a : CliArm) (m : OMethod) (e : MethodEffect) (f : OField)
    (l : List String) (occs : List Occ) (hm : a.method = some m) (he : effOf m = some e)
    (hc : a.const = .fromValue) (hk : a.clap ≠ .switch)
    (hw : e.writes.filter (·.1 == f) = [(f, .pushArg)]) (hb : b f = .strs l)
    (hshape : ∀ o ∈ occs, o.arm = a ∧ ∃ v, o.vals = [v]) :
    (occs.foldl stepOcc b) f = .strs (l ++ occs.flatMap (·.vals)) := by
  induction occs generalizing b l with
  | nil => simpa using hb
  | cons o os ih =>
    obtain ⟨arm, vals⟩ := o
    obtain ⟨rfl, v, rfl⟩ : arm = a ∧ ∃ v, vals = [v] := hshape _ List.mem_cons_self
    have hstep : stepOcc b ⟨arm, [v]⟩ f = .strs (l ++ [v]) := by
      rw [stepOcc_single b arm [v] m e f _ hm he hw, hb, writeVal_pushArg_strs, armArgs_fromValue arm [v] hc hk]
      rfl
    rw [List.foldl_cons, ih _ _ hstep (fun z hz => hshape z (List.mem_cons_of_mem _ hz)), List.flatMap_cons,
      List.append_assoc]

theorem single_absorbs (b : Options) (a : CliArm) (m : OMethod) (e : MethodEffect) (f : OField)
    (v : String) (hm : a.method = some m) (he : effOf m = some e)
    (hc : a.const = .fromValue) (hk : a.clap = .opt)
    (hw : e.writes.filter (·.1 == f) = [(f, .someArg)]) :
    stepOcc b ⟨a, [v]⟩ f = .opt (some v) := by
  rw [stepOcc_single b a [v] m e f _ hm he hw, writeVal_someArg,
    armArgs_fromValue a [v] hc (by rw [hk]; decide)]
  rfl

theorem absorb_sole_arm (env : Env) (f : OField) (a : CliArm) (k : Nat) (occs : List Occ)
    (hord : a.order = some k)
    (hsole : ∀ o ∈ occs, o.arm ≠ a → o.arm.order.isSome = true → writesField f o.arm = false) :
    absorb env occs f = ((occs.filter fun o => decide (o.arm = a)).foldl stepOcc (defaults env)) f := by
  rw [← byOrder_filter (fun o => decide (o.arm = a)) k occs
    (fun o _ hp => by rw [of_decide_eq_true hp]; exact hord)]
  refine foldl_obs_filter stepOcc (· f) _ _ (fun b o ho hoa => ?_)
    (fun b b' o _ => stepOcc_local b b' o f) _ _ rfl
  obtain ⟨hmem, hso⟩ := mem_byOrder occs o ho
  exact stepOcc_frame b o f (hsole o hmem (of_decide_eq_false hoa) hso)

/-- `hk` admits, besides the `.multi` flags, the positional header and the trailing clang arguments. -/
theorem absorb_list_field (env : Env) (f : OField) (a : CliArm) (m : OMethod) (e : MethodEffect)
    (k : Nat) (occs : List Occ)
    (hm : a.method = some m) (he : effOf m = some e) (hc : a.const = .fromValue) (hk : a.clap ≠ .switch)
    (hord : a.order = some k)
    (hw : e.writes.filter (·.1 == f) = [(f, .pushArg)])
    (hdef : defaults env f = .strs [])
    (hsole : ∀ o ∈ occs, o.arm ≠ a → o.arm.order.isSome = true → writesField f o.arm = false)
    (hshape : ∀ o ∈ occs, o.arm = a → ∃ v, o.vals = [v]) :
    absorb env occs f = .strs ((occs.filter fun o => o.arm = a).flatMap (·.vals)) := by
  rw [absorb_sole_arm env f a k occs hord hsole, list_absorbs (defaults env) a m e f [] _ hm he hc hk hw hdef]
  · rfl
  · intro o ho
    obtain ⟨hmem, harm⟩ := List.mem_filter.mp ho
    exact ⟨of_decide_eq_true harm, hshape o hmem (of_decide_eq_true harm)⟩

/-- Absorb half of the round trip for a list-valued field: `builder_from_flags` leaves in `f` exactly
the values given to its arm, in command-line order.  That `command_line_flags` emits `flag v` once per
item, in order, is not part of the statement. -/
theorem C13_list_field_roundtrip (env : Env) (f : OField) (a : CliArm) (m : OMethod) (e : MethodEffect)
    (k : Nat) (occs : List Occ)
    (hm : a.method = some m) (he : effOf m = some e) (hc : a.const = .fromValue) (hk : a.clap = .multi)
    (hord : a.order = some k)
    (hw : e.writes.filter (·.1 == f) = [(f, .pushArg)])
    (hdef : defaults env f = .strs [])
    (hsole : ∀ o ∈ occs, o.arm ≠ a → o.arm.order.isSome = true → writesField f o.arm = false)
    (hshape : ∀ o ∈ occs, o.arm = a → ∃ v, o.vals = [v]) :
    absorb env occs f = .strs ((occs.filter fun o => o.arm = a).flatMap (·.vals)) :=
  absorb_list_field env f a m e k occs hm he hc (by rw [hk]; decide) hord hw hdef hsole hshape

/-- Absorb half of the round trip for a Boolean field: `f` ends as `c` if the switch is present and
keeps its default otherwise.  That `command_line_flags` pushes the flag iff the value is `c`, and that
the default is `!c`, are not part of the statement. -/
theorem C13_switch_field_roundtrip (env : Env) (f : OField) (a : CliArm) (m : OMethod) (e : MethodEffect)
    (c : Bool) (k : Nat) (occs : List Occ)
    (hm : a.method = some m) (he : effOf m = some e) (hord : a.order = some k)
    (hw : e.writes.filter (·.1 == f) = [(f, .const c)] ∨
          (e.writes.filter (·.1 == f) = [(f, .arg)] ∧ tyOf f = .tBool ∧
            ∀ vals, armArgs a vals = [if c then "true" else "false"]))
    (hsole : ∀ o ∈ occs, o.arm ≠ a → o.arm.order.isSome = true → writesField f o.arm = false) :
    absorb env occs f = if occs.any (fun o => decide (o.arm = a)) then .b c else defaults env f := by
  -- every occurrence of the switch leaves `c`, so only whether there is one matters
  have hfold : ∀ (L : List Occ) (b : Options), (∀ o ∈ L, o.arm = a) →
      (L.foldl stepOcc b) f = if L.isEmpty then b f else .b c := by
    intro L
    induction L with
    | nil => intro b _; rfl
    | cons o os ih =>
      intro b hall
      obtain ⟨arm, vals⟩ := o
      have ho : arm = a := hall ⟨arm, vals⟩ (by simp)
      subst ho
      have hstep : stepOcc b ⟨arm, vals⟩ f = .b c :=
        switch_absorbs b arm vals m e f c hm he (hw.imp id fun ⟨h1, h2, h3⟩ => ⟨h1, h2, h3 vals⟩)
      rw [List.foldl_cons, ih _ (fun z hz => hall z (by simp [hz]))]
      cases os <;> simp [hstep]
  rw [absorb_sole_arm env f a k occs hord hsole,
    hfold _ _ (fun o ho => by simpa using (List.mem_filter.mp ho).2)]
  simp only [List.isEmpty_iff, List.filter_eq_nil_iff, List.any_eq_true]
  by_cases h : ∃ o, o ∈ occs ∧ decide (o.arm = a) = true
  · rw [if_neg (fun hn => h.elim fun o ho => hn o ho.1 ho.2), if_pos h]
  · rw [if_pos (fun o ho hp => h ⟨o, ho, hp⟩), if_neg h]

theorem C13_table_wf (s : OptSpec) (hs : s ∈ optSpecs) :
    wfRow s = true ∨ s.field ∈ knownDefectFields := wf_all s hs

theorem C13_sole_writer (s : OptSpec) (hs : s ∈ optSpecs) :
    (otherWriters s).isEmpty = true ∨ s.field ∈ multiWriterFields ∨ s.field ∈ knownDefectFields :=
  sole_all s hs

theorem C13_flags_distinct : rowFlags.Nodup := by
  have := flags_distinct
  simpa [flagsDistinct] using this

/-- What `sole_<field>` gives towards the `hsole` hypothesis of the round-trip theorems. -/
theorem other_arm_does_not_write (s : OptSpec) (h : (otherWriters s).isEmpty = true)
    (a : CliArm) (ha : a ∈ cliArms) (hord : a.order.isSome = true) (hexp : a.experimental = false)
    (hf : a.flag ≠ s.flag) (hf2 : s.flag2.isNone = true ∨ a.flag ≠ s.flag2) :
    writesField s.field a = false := by
  unfold otherWriters at h
  rw [List.isEmpty_iff] at h
  have hmem := List.filter_eq_nil_iff.mp h a ha
  cases hw : writesField s.field a with
  | false => rfl
  | true =>
    exfalso; apply hmem
    unfold writesField at hw
    simp only [Bool.and_eq_true, Bool.not_eq_true', bne_iff_ne, ne_eq, Bool.or_eq_true]
    exact ⟨⟨⟨⟨hord, hexp⟩, hf⟩, hf2⟩, hw⟩

/-- the hypotheses of `C13_list_field_roundtrip` about the row's own arm, as a decidable check -/
def listRowReady (s : OptSpec) : Bool :=
  match rowArm s with
  | none => false
  | some a =>
    match a.method with
    | none => false
    | some m =>
      match effOf m with
      | none => false
      | some e =>
        a.const == .fromValue && a.clap == .multi && a.order.isSome &&
        e.writes.filter (·.1 == s.field) == [(s.field, .pushArg)]

theorem listRowReady_elim (s : OptSpec) (h : listRowReady s = true) :
    ∃ a m e k, rowArm s = some a ∧ a.method = some m ∧ effOf m = some e ∧ a.const = .fromValue ∧
      a.clap = .multi ∧ a.order = some k ∧ e.writes.filter (·.1 == s.field) = [(s.field, .pushArg)] := by
  unfold listRowReady at h
  split at h
  · exact absurd h (by decide)
  · rename_i a ha
    split at h
    · exact absurd h (by decide)
    · rename_i m hm
      split at h
      · exact absurd h (by decide)
      · rename_i e he
        simp only [Bool.and_eq_true, beq_iff_eq] at h
        obtain ⟨⟨⟨h1, h2⟩, h3⟩, h4⟩ := h
        cases ho : a.order with
        | none => rw [ho] at h3; exact absurd h3 (by decide)
        | some k => exact ⟨a, m, e, k, ha, hm, he, h1, h2, ho, h4⟩

/-- `hdef`, `hsole` and `hshape` of `C13_list_field_roundtrip` are not covered. -/
theorem C13_list_rows_ready :
    (optSpecs.all fun s => !(s.kind == .regexSet || s.kind == .vec) || listRowReady s ||
      knownDefectFields.contains s.field) = true := by decide +kernel

/-- the hypotheses of `C13_switch_field_roundtrip` about the row's own arm, as a decidable check -/
def switchRowReady (s : OptSpec) (c : Bool) : Bool :=
  match rowArm s with
  | none => false
  | some a =>
    match a.method with
    | none => false
    | some m =>
      match effOf m with
      | none => false
      | some e =>
        a.clap == .switch && a.order.isSome &&
        (e.writes.filter (·.1 == s.field) == [(s.field, .const c)] ||
         (e.writes.filter (·.1 == s.field) == [(s.field, .arg)] && tyOf s.field == .tBool &&
          (if c then a.const == .fromValue || a.const == .cTrue else a.const == .cFalse)))

/-- `.boolBoth` rows are not examined; `hsole` is not covered. -/
theorem C13_switch_rows_ready :
    (optSpecs.all fun s =>
      (!(s.kind == .bool) || !fieldWritten s.field || switchRowReady s true) &&
      (!(s.kind == .negBool) || switchRowReady s false)) = true := by decide +kernel

/-- from the condition on `a.const` in `switchRowReady` to the `armArgs` clause of `hw` in
`C13_switch_field_roundtrip` -/
theorem armArgs_switch (a : CliArm) (vals : List String) (hk : a.clap = .switch) (c : Bool)
    (hc : if c then a.const = .fromValue ∨ a.const = .cTrue else a.const = .cFalse) :
    armArgs a vals = [if c then "true" else "false"] := by
  unfold armArgs
  cases c
  · simp only [Bool.false_eq_true, if_false] at hc; simp [hc]
  · simp only [if_true] at hc
    rcases hc with hc | hc <;> simp [hc, hk]

example : wfRow spec_use_core = true ∧ wfRow spec_layout_tests = true ∧
    wfRow spec_blocklisted_types = true ∧ wfRow spec_codegen_config = true := by decide +kernel
example : (otherWriters spec_formatter).length = 2 := by decide +kernel

end BindgenModel.Opts

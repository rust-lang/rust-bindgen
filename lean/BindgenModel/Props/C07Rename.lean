import BindgenModel.Props.C07
/-!
# C07 — renumbering the declarations transports the facts

`ItemId`s are handed out in the order libclang visits the declarations, so "declaration order is
irrelevant" means: if the same item graph is numbered differently, every item gets the same facts
(`C07_rename_equivariant`, for any bijection `π` on node ids and any two work-lists that cover the nodes).

Not covered: that bindgen's IR construction itself yields graphs that are renamings of each other
when declarations are permuted (the harness compares that on generated programs).
-/
namespace BindgenModel.Worklist

variable {N L : Type} [DecidableEq N] [DecidableEq L]

/-- `F` under the renumbering `π` (inverse `ρ`): a state of the renamed analysis reads item `π m`
where the original reads `m` -/
def rename (π ρ : N → N) (F : Framework N L) : Framework N L where
  nodes := F.nodes.map π
  bot := F.bot
  join := F.join
  le := F.le
  rank := F.rank
  height := F.height
  rule := fun s' n' => F.rule (fun m => s' (π m)) (ρ n')
  deps := fun n' => (F.deps (ρ n')).map π
  reads := fun n' => (F.reads (ρ n')).map π

theorem rename_lawful (π ρ : N → N) (hρπ : ∀ n, ρ (π n) = n) (_hπρ : ∀ n, π (ρ n) = n)
    (F : Framework N L) (h : Lawful F) : Lawful (rename π ρ F) :=
  { h with
    reads_only := fun s s' n' hs =>
      h.reads_only (fun m => s (π m)) (fun m => s' (π m)) (ρ n') fun m hm => hs (π m) (List.mem_map.mpr ⟨m, hm, rfl⟩)
    reads_deps := by
      intro n' m' hm hn
      obtain ⟨m, hmr, rfl⟩ := List.mem_map.mp hm
      obtain ⟨k, hk, rfl⟩ := List.mem_map.mp hn
      show π k ∈ (F.deps (ρ (π m))).map π
      rw [hρπ] at hmr ⊢
      exact List.mem_map.mpr ⟨k, h.reads_deps k m hmr hk, rfl⟩
    mono := fun s s' n' hs => h.mono (fun m => s (π m)) (fun m => s' (π m)) (ρ n') fun m => hs (π m) }

omit [DecidableEq N] [DecidableEq L] in
theorem stable_rename (π ρ : N → N) (hρπ : ∀ n, ρ (π n) = n) (F : Framework N L) (s' : N → L) (k : N) :
    Stable (rename π ρ F) s' (π k) ↔ Stable F (fun m => s' (π m)) k := by
  show F.le (F.rule (fun m => s' (π m)) (ρ (π k))) (s' (π k)) = true ↔ _
  rw [hρπ]
  rfl

omit [DecidableEq N] [DecidableEq L] in
theorem IsLeastStable.rename (π ρ : N → N) (hρπ : ∀ n, ρ (π n) = n) (hπρ : ∀ n, π (ρ n) = n)
    {F : Framework N L} {s : N → L} (hs : IsLeastStable F s) :
    IsLeastStable (rename π ρ F) (fun n' => s (ρ n')) := by
  constructor
  · intro n' hn'
    obtain ⟨k, hk, rfl⟩ := List.mem_map.mp hn'
    rw [stable_rename π ρ hρπ]
    simp only [hρπ]
    exact hs.stable k hk
  · intro q hq n'
    have := hs.least (fun m => q (π m))
      (fun k hk => (stable_rename π ρ hρπ F q k).mp (hq (π k) (List.mem_map.mpr ⟨k, hk, rfl⟩))) (ρ n')
    rw [hπρ] at this
    exact this

theorem C07_rename_equivariant (π ρ : N → N) (hρπ : ∀ n, ρ (π n) = n) (hπρ : ∀ n, π (ρ n) = n)
    (F : Framework N L) (h : Lawful F) (hbot : ∀ a, F.le F.bot a = true)
    (hd : ∀ n ∈ F.nodes, ∀ m ∈ F.deps n, m ∈ F.nodes)
    (wl wl' : List N)
    (hwl : ∀ n ∈ wl, n ∈ F.nodes) (hall : ∀ n ∈ F.nodes, n ∈ wl)
    (hwl' : ∀ n' ∈ wl', n' ∈ (rename π ρ F).nodes) (hall' : ∀ n' ∈ (rename π ρ F).nodes, n' ∈ wl')
    (n : N) : analyze (rename π ρ F) wl' (π n) = analyze F wl n := by
  have hG := rename_lawful π ρ hρπ hπρ F h
  have hdG : ∀ n' ∈ (rename π ρ F).nodes, ∀ m' ∈ (rename π ρ F).deps n', m' ∈ (rename π ρ F).nodes := by
    intro n' hn' m' hm'
    obtain ⟨k, hk, rfl⟩ := List.mem_map.mp hn'
    obtain ⟨m, hm, rfl⟩ := List.mem_map.mp hm'
    rw [hρπ] at hm
    exact List.mem_map.mpr ⟨m, hd k hk m hm, rfl⟩
  have heq : analyze (rename π ρ F) wl' = fun n' => analyze F wl (ρ n') :=
    (analyze_isLeastStable (rename π ρ F) hG hbot hdG wl' hwl' hall').unique hG.le_antisymm
      ((analyze_isLeastStable F h hbot hd wl hwl hall).rename π ρ hρπ hπρ)
  rw [heq]
  exact congrArg (analyze F wl) (hρπ n)

example : analyze (rename (fun n => if n = 0 then 2 else if n = 2 then 0 else n)
      (fun n => if n = 0 then 2 else if n = 2 then 0 else n) demo) [0, 1, 2, 3] 2
    = analyze demo [3, 2, 1, 0] 0 := by decide

end BindgenModel.Worklist

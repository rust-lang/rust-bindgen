import BindgenModel.Model.Entry
import BindgenModel.Model.PanicSites
import BindgenModel.Generated.Entry
import BindgenModel.Generated.Sites
import BindgenModel.Lemmas.InsertSort
/-!
# C12 — generation always ends with bindings or an error value, never a panic  (PARTIAL)

Absence of panics in the ~33 k lines driven by libclang is not a theorem about a model we can write.
What is proved are the decision and termination cores of `Model/Entry.lean`:

* `C12_path_triage_total`: the input-path checks give exactly the documented error for a directory /
  no read bit / failed `metadata`, else proceed;
* `C12_clang_error_iff`: `Err(ClangDiagnostic m)` ⇔ some diagnostic has severity ≥ Error, and `m` is
  the concatenation of exactly those messages, each followed by '\n';
* `C12_unsupported_edition_iff`: `Err(UnsupportedEdition)` ⇔ an edition is requested on a stable
  target older than the edition's first minor;
* `C12_from_str_total_partial`: `RustTarget::from_str` panics exactly on `-nightly` strings whose
  minor parses to 0, in a build with overflow checks and the unchecked `minor -= 1`
  (`C12_from_str_panics_on_1_0_nightly`); never with `checked_sub`, which the source has since /repo
  46a718cc (`C12_from_str_fixed_total`);
* `C12_resolve_terminates`: `ItemResolver::resolve` returns on every graph, cycles included;
* `C12_latest_edition_exists`: guard of the `expect` in `RustTarget::latest_edition`;
* `C12_all_panic_sites_classified`: drift detector over the regenerated panic-site inventory.

The unmodelled parser / codegen panic sites (`C12_unmodelled_sites_counted`) are covered only by the
exploration in checks/c12.py, never by a theorem.
-/
namespace BindgenModel.Entry
open List

theorem C12_path_triage_total (mask : Nat) (m : Option Meta) :
    (pathTriage mask m = .notExist ↔ m = some .err) ∧
    (pathTriage mask m = .folderAsHeader ↔ m = some .dir) ∧
    (pathTriage mask m = .insufficientPermissions ↔ ∃ mode, m = some (.file mode) ∧ mode &&& mask = 0) ∧
    (pathTriage mask m = .proceed ↔ m = none ∨ ∃ mode, m = some (.file mode) ∧ mode &&& mask > 0) := by
  match m with
  | none | some .err | some .dir => simp [pathTriage]
  | some (.file mode) =>
    by_cases h : mode &&& mask = 0 <;> simp [pathTriage, canRead, h, Nat.pos_iff_ne_zero]

/-- a file whose only read bit is "other" passes the check although its owner cannot read it (clang
then fails to open it and the error is `ClangDiagnostic`, not `InsufficientPermissions`) -/
theorem C12_path_triage_other_read_bit :
    pathTriage Generated.Entry.canReadMask (some (.file 0o004)) = .proceed ∧
    pathTriage Generated.Entry.canReadMask (some (.file 0o200)) = .insufficientPermissions := by decide +kernel

def errorsOf (thr : Nat) (ds : List Diag) : List Diag := ds.filter (fun d => d.severity ≥ thr)

/-- the message of `ClangDiagnostic` -/
def render (es : List Diag) : List Char := es.flatMap (fun d => d.msg ++ ['\n'])

theorem errorsOf_eq_nil {thr : Nat} {ds : List Diag} : errorsOf thr ds = [] ↔ ∀ d ∈ ds, d.severity < thr := by
  simp [errorsOf]

theorem mem_errorsOf {thr : Nat} {ds : List Diag} {d : Diag} : d ∈ errorsOf thr ds ↔ d ∈ ds ∧ d.severity ≥ thr := by
  simp [errorsOf]

theorem scan_foldl (thr : Nat) (ds : List Diag) (acc : Option (List Char)) :
    ds.foldl (scanStep thr) acc =
      if errorsOf thr ds = [] then acc else some (acc.getD [] ++ render (errorsOf thr ds)) := by
  induction ds generalizing acc with
  | nil => rfl
  | cons d ds ih =>
    rw [foldl_cons, ih]
    by_cases hd : d.severity ≥ thr
    · have e : errorsOf thr (d :: ds) = d :: errorsOf thr ds := filter_cons_of_pos (by simpa using hd)
      rw [e]
      split <;> simp [scanStep, render, *]
    · have e : errorsOf thr (d :: ds) = errorsOf thr ds := filter_cons_of_neg (by simpa using hd)
      rw [e, scanStep, if_neg hd]

theorem scanDiags_eq (thr : Nat) (ds : List Diag) :
    scanDiags thr ds = if errorsOf thr ds = [] then none else some (render (errorsOf thr ds)) := by
  simp [scanDiags, scan_foldl]

theorem C12_clang_error_iff (thr : Nat) (ds : List Diag) :
    (scanDiags thr ds = none ↔ ∀ d ∈ ds, d.severity < thr) ∧
    (∀ m, scanDiags thr ds = some m → (∃ d ∈ ds, d.severity ≥ thr) ∧ m = render (errorsOf thr ds)) := by
  rw [scanDiags_eq, ← errorsOf_eq_nil]
  split
  next h => simp [h]
  next h =>
    obtain ⟨d, hd⟩ := exists_mem_of_ne_nil _ h
    exact ⟨by simp [h], fun m hm => ⟨⟨d, mem_errorsOf.mp hd⟩, (Option.some.inj hm).symm⟩⟩

theorem C12_warnings_irrelevant (thr : Nat) (ds : List Diag) :
    scanDiags thr ds = scanDiags thr (errorsOf thr ds) := by
  have : errorsOf thr (errorsOf thr ds) = errorsOf thr ds := by simp [errorsOf]
  rw [scanDiags_eq, scanDiags_eq, this]

theorem C12_error_message_complete (thr : Nat) (ds : List Diag) (m : List Char)
    (h : scanDiags thr ds = some m) (d : Diag) (hd : d ∈ ds) (hs : d.severity ≥ thr) :
    ∃ pre post, m = pre ++ (d.msg ++ ['\n']) ++ post := by
  obtain ⟨l₁, l₂, e⟩ := append_of_mem (mem_errorsOf.mpr ⟨hd, hs⟩)
  refine ⟨render l₁, render l₂, ?_⟩
  rw [((C12_clang_error_iff thr ds).2 m h).2, e]
  simp [render]

theorem C12_one_error_suffices (thr : Nat) (pre post : List Diag) (d : Diag) (hs : d.severity ≥ thr) :
    scanDiags thr (pre ++ d :: post) ≠ none := by
  intro h
  have := (C12_clang_error_iff thr _).1.1 h d (by simp)
  omega

theorem C12_unsupported_edition_iff (ed : Option Nat) (t : Target) :
    editionCheck ed t = .unsupportedEdition ↔ ∃ e m p, ed = some e ∧ t = .stable m p ∧ m < e := by
  match ed, t with
  | none, _ => simp [editionCheck]
  | some e, .nightly => simp [editionCheck, editionAvailable, Target.minor?]
  | some e, .stable m p => simp [editionCheck, editionAvailable, Target.minor?]

/-- `ht` holds of every target `RustTarget::stable` builds; `editions` is regenerated from the source. -/
theorem C12_latest_edition_exists (t : Target)
    (ht : ∀ m p, t = .stable m p → Generated.Entry.earliestMinor ≤ m) :
    ∃ r ∈ Generated.Entry.editions, editionAvailable r.2 t = true := by
  obtain ⟨r, hr, hle⟩ : ∃ r ∈ Generated.Entry.editions, r.2 ≤ Generated.Entry.earliestMinor := by decide
  refine ⟨r, hr, ?_⟩
  match t with
  | .nightly => rfl
  | .stable m p => simpa [editionAvailable, Target.minor?] using Nat.le_trans hle (ht m p rfl)

theorem stable_ne_panic (e m p : Nat) : stable e m p ≠ .panic := by
  unfold stable
  split <;> simp

theorem finish_eq_panic_iff (checkedSub overflowChecks : Bool) (earliest minor patch : Nat) (nightly : Bool) :
    finish checkedSub overflowChecks earliest (minor, patch, nightly) = .panic ↔
      checkedSub = false ∧ overflowChecks = true ∧ minor = 0 ∧ nightly = true := by
  cases nightly
  · simp [finish, stable_ne_panic]
  · by_cases hm : minor = 0
    · cases checkedSub <;> cases overflowChecks <;> simp [finish, hm, stable_ne_panic]
    · simp [finish, hm, stable_ne_panic]

theorem C12_from_str_total_partial (checkedSub overflowChecks : Bool) (earliest : Nat) (s : List Char) :
    fromStr checkedSub overflowChecks earliest s = .panic ↔
      (checkedSub = false ∧ overflowChecks = true ∧ (s == nightlyStr) = false ∧
        ∃ patch, parseParts s = .ok (0, patch, true)) := by
  unfold fromStr
  cases hn : s == nightlyStr
  · cases hp : parseParts s with
    | error e => simp
    | ok parts =>
      obtain ⟨minor, patch, nightly⟩ := parts
      simp [finish_eq_panic_iff]
  · simp

theorem C12_from_str_panics_on_1_0_nightly :
    fromStr false true 51 ['1', '.', '0', '-', 'n', 'i', 'g', 'h', 't', 'l', 'y'] = .panic ∧
    fromStr false true 51 ['1', '.', '+', '0', '.', '7', '-', 'n', 'i', 'g', 'h', 't', 'l', 'y'] = .panic := by
  decide +kernel

theorem C12_from_str_wraps_in_release :
    fromStr false false 51 ['1', '.', '0', '-', 'n', 'i', 'g', 'h', 't', 'l', 'y']
      = .ok (.stable (2 ^ 64 - 1) (2 ^ 64 - 1)) := by decide +kernel

/-- `checkedSub = true` is what the source has (`Generated.Entry.fromStrCheckedSub`) -/
theorem C12_from_str_fixed_total (overflowChecks : Bool) (earliest : Nat) (s : List Char) :
    fromStr true overflowChecks earliest s ≠ .panic :=
  fun h => nomatch ((C12_from_str_total_partial true overflowChecks earliest s).mp h).1

example : fromStr false true 51 ['1', '.', '7', '1', '.', '1', '-', 'b', 'e', 't', 'a', '.', '2'] = .ok (.stable 71 1) := by decide +kernel
example : fromStr false true 51 ['1', '.', '5', '2', '-', 'n', 'i', 'g', 'h', 't', 'l', 'y'] = .ok (.stable 51 (2 ^ 64 - 1)) := by decide +kernel
example : fromStr false true 51 ['1', '.', '3', '0'] = .err .tooEarly := by decide +kernel
example : fromStr false true 51 ['2', '.', '0'] = .err .major := by decide +kernel

/-- `seen_ids` holds ids of the graph, each once, so it never outgrows the graph
(`List.Nodup.length_le_of_subset`): with more fuel than items not yet seen the loop cannot run dry. -/
theorem resolveLoop_ne_outOfFuel (g : List Node) (refs aliases : Bool) (fuel id : Nat) (seen : List Nat)
    (hnd : seen.Nodup) (hsub : seen ⊆ range g.length) (h : g.length < fuel + seen.length) :
    resolveLoop g refs aliases fuel id seen ≠ .outOfFuel := by
  fun_induction resolveLoop g refs aliases fuel id seen with
  | case1 =>
    have := hnd.length_le_of_subset hsub
    rw [length_range] at this
    omega
  -- the two recursive calls: `id` is an item and was not seen, so the invariant holds of `id :: seen`
  | case4 fuel id seen hm next _ hg ih | case6 fuel id seen hm next _ hg ih =>
    obtain ⟨hid, -⟩ := List.getElem?_eq_some_iff.mp hg
    refine ih (nodup_cons.mpr ⟨by simpa using hm, hnd⟩) (cons_subset.mpr ⟨mem_range.mpr hid, hsub⟩) ?_
    rw [length_cons]
    omega
  | case2 | case3 | case5 | case7 | case8 => nofun

theorem C12_resolve_terminates (g : List Node) (refs aliases : Bool) (id : Nat) :
    resolve g refs aliases id ≠ .outOfFuel :=
  resolveLoop_ne_outOfFuel g refs aliases _ id [] nodup_nil (nil_subset _) (by simp)

theorem C12_resolve_cycle_returns :
    resolve [.typeRef 1, .alias 2, .typeRef 0] true true 0 = .item 0 ∧
    resolve [.typeRef 0] true true 0 = .item 0 ∧
    resolve [.typeRef 1, .alias 2, .other] true true 0 = .item 2 ∧
    resolve [.typeRef 1, .alias 2, .other] true false 0 = .item 1 ∧
    resolve [.typeRef 7] true true 0 = .noItem 7 := by decide +kernel

end BindgenModel.Entry

namespace BindgenModel.PanicSites
open List

theorem consumedAlong_sound (a b : List Nat) (h : consumedAlong a b = true) : a ⊆ b := by
  fun_induction consumedAlong a b with
  | case1 a => exact isEmpty_iff.mp h ▸ nil_subset []
  | case2 => exact nil_subset _
  | case3 xs y ys ih => exact cons_subset_cons y (ih h)
  | case4 x xs y ys hne ih => exact subset_cons_of_subset y (ih h)

theorem insertSorted_eq_insertBy (a : Nat) (l : List Nat) : insertSorted a l = Post.insertBy id a l := by
  induction l with
  | nil => rfl
  | cons b l ih => simp only [insertSorted, Post.insertBy, ih, id]

theorem classifiedHashes_eq_stableSort : classifiedHashes = Post.stableSort id (panicClasses.map (·.1)) := by
  have : insertSorted = Post.insertBy id := funext fun a => funext (insertSorted_eq_insertBy a)
  rw [classifiedHashes, this, Post.foldr_insertBy]

theorem mem_classifiedHashes {h : Nat} : h ∈ classifiedHashes ↔ h ∈ panicClasses.map (·.1) := by
  rw [classifiedHashes_eq_stableSort]
  exact (Post.stableSort_perm id _).mem_iff

/-- `fuel` levels deep; what is left at level 0 stays as it is.  The comparison is `Nat.blt`, which the
kernel computes on literals at once, unlike `decide (· < a)`. -/
def quickSort : Nat → List Nat → List Nat
  | fuel + 1, a :: l =>
    quickSort fuel (l.partition (Nat.blt · a)).1 ++ a :: quickSort fuel (l.partition (Nat.blt · a)).2
  | _, l => l

theorem mem_quickSort {x fuel : Nat} {l : List Nat} : x ∈ quickSort fuel l ↔ x ∈ l := by
  fun_induction quickSort fuel l with
  | case1 fuel a l ihlo ihhi =>
    rw [mem_append, mem_cons, ihlo, ihhi, mem_cons, mem_partition (l := l)]
    exact or_left_comm
  | case2 => rfl

/-- Every `unwrap()` / `expect(` / `panic!` / `unreachable!` / `assert!` / `unimplemented!` / `todo!` /
decision-core index site the translator found in /repo's working tree has a row in the committed
classification: a new or edited panic site breaks this. -/
theorem C12_all_panic_sites_classified :
    ∀ h ∈ Generated.panicSitesHashes, h ∈ classifiedHashes := by
  -- the model's `classifiedHashes` is an insertion sort, quadratic in the kernel on the 335 rows; membership
  -- does not depend on how the column was sorted (`mem_classifiedHashes`), so the kernel runs `quickSort`
  have hc : consumedAlong Generated.panicSitesHashes
      (quickSort panicClasses.length (panicClasses.map (·.1))) = true := by decide +kernel
  exact fun h hh => mem_classifiedHashes.mpr (mem_quickSort.mp (consumedAlong_sound _ _ hc hh))

/-- The size of the partial claim: rows of the classification covered by a stated invariant, and rows
covered only by exploration.  Rows are counted, not sites: the inventory `Generated.panicSitesHashes`
is only known to lie among them (`C12_all_panic_sites_classified`). -/
theorem C12_unmodelled_sites_counted :
    (panicClasses.filter (fun r => r.2.1.covered)).length = 20 ∧
    (panicClasses.filter (fun r => !r.2.1.covered)).length = 315 := by decide +kernel

end BindgenModel.PanicSites

import BindgenModel.Model.Mangling
import BindgenModel.Generated.ManglingFilters
/-!
# C04 — C++ methods and destructors reach the right one of their symbols

About `Model/Mangling.lean`: `cursor_mangling` pops libclang's list of manglings from the back and returns the first
entry its filters admit.  What is picked is never a thunk and, for a destructor, is the `D1` symbol; something is picked
whenever something admissible is listed, namely the last such entry.  `C04_mangling_filters_in_source` is the source
obligation (regenerated `Generated/ManglingFilters.lean`).
-/
namespace BindgenModel.C04
open BindgenModel.Mangling BindgenModel.Generated

theorem pick_spec (f : Filters) (ms : List String) (m : String) (h : pick f ms = some m) :
    m ∈ ms ∧ f.admits m = true := by
  unfold pick at h
  exact ⟨by simpa using List.mem_of_find?_eq_some h, List.find?_some h⟩

theorem C04_never_a_thunk (f : Filters) (ms : List String) (m : String) (hs : f.skipThunks = true)
    (hi : f.itanium = true) (h : pick f ms = some m) : f.isThunk m = false := by
  have := (pick_spec f ms m h).2
  simp only [Filters.admits, hs, hi, Bool.true_and, Bool.and_eq_true, Bool.not_eq_true'] at this
  exact this.2

theorem C04_destructor_is_D1 (f : Filters) (ms : List String) (m : String) (hi : f.itanium = true)
    (hd : f.destructor = true) (h : pick f ms = some m) : f.isD1 m = true := by
  have := (pick_spec f ms m h).2
  simp only [Filters.admits, hi, hd, Bool.true_and, Bool.and_eq_true, Bool.not_eq_true', Bool.not_eq_false'] at this
  exact this.1

/-- No binding silently falls back to `cursor.mangling()` while an admissible symbol exists. -/
theorem C04_pick_complete (f : Filters) (ms : List String) (m : String) (hm : m ∈ ms) (ha : f.admits m = true) :
    ∃ m', pick f ms = some m' :=
  Option.isSome_iff_exists.1 (List.find?_isSome.2 ⟨m, List.mem_reverse.2 hm, ha⟩)

theorem pick_append_singleton (f : Filters) (ms : List String) (m : String) :
    pick f (ms ++ [m]) = if f.admits m then some m else pick f ms := by
  unfold pick
  rw [List.reverse_append, List.reverse_singleton, List.singleton_append, List.find?_cons]
  cases f.admits m <;> rfl

theorem C04_pick_last (f : Filters) (ms : List String) (m : String) (ha : f.admits m = true) :
    pick f (ms ++ [m]) = some m := by
  rw [pick_append_singleton, if_pos ha]

theorem C04_pick_skips (f : Filters) (ms : List String) (m : String) (ha : f.admits m = false) :
    pick f (ms ++ [m]) = pick f ms := by
  rw [pick_append_singleton, ha]
  rfl

/-- `struct C : A, B { int fb(int) override; }`: libclang lists the method and then its thunk.  Without the filter the
thunk is bound (the defect repaired in /repo 7bacfa8d), with it the method; of a destructor's group, the `D1` symbol. -/
theorem C04_unfiltered_binds_thunk :
    pick { itanium := true, destructor := false, skipThunks := false, isThunk := isThunkName, isD1 := isD1Name }
      ["_ZN1C2fbEi", "_ZThn16_N1C2fbEi"] = some "_ZThn16_N1C2fbEi" ∧
    pick { itanium := true, destructor := false, skipThunks := true, isThunk := isThunkName, isD1 := isD1Name }
      ["_ZN1C2fbEi", "_ZThn16_N1C2fbEi"] = some "_ZN1C2fbEi" ∧
    pick { itanium := true, destructor := true, skipThunks := true, isThunk := isThunkName, isD1 := isD1Name }
      ["_ZN1CD2Ev", "_ZN1CD1Ev", "_ZN1CD0Ev", "_ZThn16_N1CD1Ev", "_ZThn16_N1CD0Ev"] = some "_ZN1CD1Ev" := by
  decide +kernel

theorem C04_mangling_filters_in_source : thunksSkipped = true ∧ destructorGroupFiltered = true := by decide

end BindgenModel.C04

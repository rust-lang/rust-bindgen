import BindgenModel.Lemmas.MacroKind
import BindgenModel.Lemmas.CExpr
import BindgenModel.Lemmas.ConstEmit
import BindgenModel.Model.ConstEmit
import BindgenModel.Model.CRegions
/-!
# C05 — constants carry the C compiler's value in a type that can hold it

Proved: the integer kind chosen for a macro value (`default_macro_constant_type`) holds it, for every
`Int` in the i64 range and all four option records (the ladder is the table `Generated.macroKindRows`,
regenerated from bindgen/ir/var.rs on every run); cexpr computes C's value on the fragment `signedFrag`;
emitted literals and enum items read back as the C values.  Outside the fragment the witness theorems
exhibit values that differ from C's, so the full statement `C05_statement` is refuted.
-/
namespace BindgenModel.MacroKind
open BindgenModel.Generated

theorem C05_ladder_good_of_wf (rows : List MRow) (hwf : wfLadder rows = true)
    (o : MOpts) (v : Int) (h1 : i64Min ≤ v) (h2 : v ≤ i64Max) :
    ∃ k, evalRows o v rows = some k ∧ k.lo ≤ v ∧ v ≤ k.hi ∧ (v < 0 → k.isSigned = true) := by
  obtain ⟨a, z, ha, hz, hamin, hzmax, hac, hzc, hk⟩ := bracket (rowsCuts rows) v h1 h2
  obtain ⟨k, hka, hlo, _, hsg⟩ := goodAt_iff.1 (wfLadder_good hwf o hac hamin (by omega))
  obtain ⟨k', hkz, _, hhi, _⟩ := goodAt_iff.1 (wfLadder_good hwf o hzc (by omega) hzmax)
  -- the ladder cannot tell `a`, `v` and `z` apart
  rw [evalRows_congr o rows a v fun c hc => (hk c hc).1] at hka
  rw [evalRows_congr o rows z v fun c hc => (hk c hc).2, hka] at hkz
  cases hkz
  exact ⟨k, hka, by omega, by omega, fun hv => hsg (by omega)⟩

theorem C05_macroKindRows_wf : wfLadder macroKindRows = true := by decide +kernel

/-- the table ends with an unconditional row (the `if` chain is total) -/
theorem C05_macroKindRows_total : (macroKindRows.getLast?).map (·.cond) = some [] := by decide +kernel

/-- **C05 (kind holds value).**  The kind `default_macro_constant_type` chooses contains the value and
is signed when the value is negative. -/
theorem C05_kind_holds_value (o : MOpts) (v : Int) (h1 : i64Min ≤ v) (h2 : v ≤ i64Max) :
    ∃ k, macroKind o v = some k ∧ k.lo ≤ v ∧ v ≤ k.hi ∧ (v < 0 → k.isSigned = true) :=
  C05_ladder_good_of_wf macroKindRows C05_macroKindRows_wf o v h1 h2

theorem C05_macroKind_eq_hand (o : MOpts) (v : Int) : macroKind o v = some (macroKindHand o v) := by
  simp only [macroKind, macroKindRows, evalRows, condHolds, clauseHolds, atomHolds, macroKindHand,
    List.all_cons, List.all_nil, List.any_cons, List.any_nil, Bool.or_false, Bool.and_true,
    Bool.and_eq_true, Bool.or_eq_true, decide_eq_true_eq, apply_ite some]
  -- the table is the nested `if` flattened: every row of the signed half repeats the outer guard
  by_cases hs : v < 0 ∨ o.signed = true <;> simp only [hs, true_and, false_and, if_true, if_false]

theorem C05_kind_holds_value_hand (o : MOpts) (v : Int) (h1 : i64Min ≤ v) (h2 : v ≤ i64Max) :
    (macroKindHand o v).lo ≤ v ∧ v ≤ (macroKindHand o v).hi ∧
      (v < 0 → (macroKindHand o v).isSigned = true) := by
  obtain ⟨k, hk, h⟩ := C05_kind_holds_value o v h1 h2
  cases (C05_macroKind_eq_hand o v).symm.trans hk
  exact h

/-- with `--fit-macro-constant-types` the kind is the narrowest of its signedness -/
theorem C05_fit_is_narrowest (s : Bool) (v : Int) (k' : MKind)
    (hk' : k'.isSigned = (macroKindHand ⟨s, true⟩ v).isSigned) (hfit : k'.lo ≤ v ∧ v ≤ k'.hi) :
    (macroKindHand ⟨s, true⟩ v).bits ≤ k'.bits := by
  revert hk' hfit
  simp only [macroKindHand, Bool.not_true, Bool.false_eq_true, false_or]
  -- every rung against every kind: one of the other signedness contradicts `hk'`, a narrower one
  -- of the same signedness cannot hold `v` past the guards of the rungs above
  (repeat' split) <;> cases k' <;>
    simp only [MKind.lo, MKind.hi, MKind.isSigned, MKind.bits, Bool.false_eq_true, Bool.true_eq_false,
      false_imp_iff, forall_const] <;>
    omega

example : ∃ k, macroKind ⟨false, true⟩ (-9223372036854775808) = some k ∧ k = .I64 := ⟨_, by decide +kernel, rfl⟩
example : ∃ k, macroKind ⟨false, true⟩ 9223372036854775807 = some k ∧ k = .U64 := ⟨_, by decide +kernel, rfl⟩
example : macroKind ⟨true, true⟩ 200 = some .I16 := by decide +kernel

end BindgenModel.MacroKind

/-!
`signedFrag cenv e`: `e` is built from integer literals, references, parentheses, unary `+ - ~`
and the binary operators cexpr knows, and every literal and intermediate result has, in C, a
signed type `int` / `long` / `long long` with a value of that type (no undefined behaviour anywhere).
-/
namespace BindgenModel.CExpr

def slB (t : CTy) : Bool := t = .int || t = .long || t = .llong

def nodeOk (cenv : CEnv) (e : Expr) : Bool :=
  match cEval cenv e with
  | .val (.int t v) => slB t && t.holds v
  | _ => false

def signedFrag (cenv : CEnv) : Expr → Bool
  | .int d n s => nodeOk cenv (.int d n s)
  | .ident n => nodeOk cenv (.ident n)
  | .paren e => signedFrag cenv e
  | .un op e => (op != .lnot) && signedFrag cenv e && nodeOk cenv (.un op e)
  | .bin op a b => isCexprBinOp op && signedFrag cenv a && signedFrag cenv b && nodeOk cenv (.bin op a b)
  | _ => false

/-- `parsed_macros` holds, for every integer macro C knows, the same value -/
def EnvAgree (cenv : CEnv) (env : Env) : Prop :=
  ∀ n t v, clookup cenv n = some (.int t v) → lookup env n = some (.int v)

theorem slB_SL {t : CTy} (h : slB t = true) : SL t := by
  simpa [slB, SL, or_assoc] using h

theorem nodeOk_spec {cenv : CEnv} {e : Expr} (h : nodeOk cenv e = true) :
    ∃ t v, cEval cenv e = .val (.int t v) ∧ SL t ∧ t.holds v = true := by
  unfold nodeOk at h
  split at h
  · rename_i t v heq
    simp only [Bool.and_eq_true] at h
    exact ⟨t, v, heq, slB_SL h.1, h.2⟩
  · simp at h

theorem cEval_paren_int {cenv : CEnv} {e : Expr} {t : CTy} {v : Int}
    (h : cEval cenv e = .val (.int t v)) : cEval cenv (.paren e) = .val (.int t v) := by
  simp only [cEval, h]

theorem cEval_bin_int {cenv : CEnv} {op : BinOp} {a b : Expr} {ta tb : CTy} {va vb : Int}
    (hop : isCexprBinOp op = true) (ha : cEval cenv a = .val (.int ta va))
    (hb : cEval cenv b = .val (.int tb vb)) : cEval cenv (.bin op a b) = cIntBin op ta tb va vb := by
  simp only [cEval]
  split
  · cases hop
  · cases hop
  · simp only [ha, hb, cBin]

theorem litType_holds {dec : Bool} {n : Nat} {suf : IntSuffix} {t : CTy}
    (h : litType dec n suf = some t) : t.holds n = true := by
  unfold litType at h
  exact List.find?_some (p := fun t => CTy.holds t n) h

theorem signedFrag_agree {cenv : CEnv} {env : Env} (e : Expr)
    (hagree : ∀ n ∈ refs e, ∀ t v, clookup cenv n = some (.int t v) → lookup env n = some (.int v))
    (hfrag : signedFrag cenv e = true) :
    ∃ t v, cEval cenv e = .val (.int t v) ∧ SL t ∧ t.holds v = true ∧ cexprNum env e = .ok (.int v) := by
  induction e with
  | int d n s =>
    obtain ⟨t, v, hc, hsl, hh⟩ := nodeOk_spec hfrag
    refine ⟨t, v, hc, hsl, hh, ?_⟩
    simp only [cEval] at hc
    split at hc
    · cases hc
      have hn := hsl.i64 hh
      have hlt : n < 18446744073709551616 := by omega
      simp only [cexprNum, hlt, if_true, wrap64_eq n hn.1 hn.2]
    · cases hc
  | ident n =>
    obtain ⟨t, v, hc, hsl, hh⟩ := nodeOk_spec hfrag
    refine ⟨t, v, hc, hsl, hh, ?_⟩
    simp only [cEval] at hc
    split at hc
    · rename_i cv hl
      cases hc
      simp only [cexprNum, hagree n List.mem_cons_self t v hl]
    · cases hc
  | paren e ih =>
    obtain ⟨t, v, hc, hsl, hh, hn⟩ := ih hagree hfrag
    exact ⟨t, v, cEval_paren_int hc, hsl, hh, hn⟩
  | un op e ih =>
    simp only [signedFrag, Bool.and_eq_true, bne_iff_ne, ne_eq] at hfrag
    obtain ⟨⟨hop, hfe⟩, hnode⟩ := hfrag
    obtain ⟨t, v, hc, hsl, hh⟩ := nodeOk_spec hnode
    refine ⟨t, v, hc, hsl, hh, ?_⟩
    obtain ⟨te, ve, he, hsle, hhe, ihe⟩ := ih hagree hfe
    simp only [cEval, he, hsle.promote_eq, hsle.signed_eq, if_true] at hc
    cases op with
    | lnot => exact absurd rfl hop
    | plus =>
      cases hc
      simp only [cexprNum, ihe]
    | neg =>
      simp only [cexprNum, ihe]
      exact hsle.arith_agree hc
    | bnot =>
      rw [hsle.convInt_eq (hsle.holds_bnot hhe)] at hc
      cases hc
      simp only [cexprNum, ihe]
  | bin op a b iha ihb =>
    simp only [signedFrag, Bool.and_eq_true] at hfrag
    obtain ⟨⟨⟨hop, hfa⟩, hfb⟩, hnode⟩ := hfrag
    obtain ⟨t, v, hc, hsl, hh⟩ := nodeOk_spec hnode
    refine ⟨t, v, hc, hsl, hh, ?_⟩
    obtain ⟨ta, va, hea, hsla, hha, ia⟩ := iha (fun n hn => hagree n (List.mem_append_left _ hn)) hfa
    obtain ⟨tb, vb, heb, hslb, hhb, ib⟩ := ihb (fun n hn => hagree n (List.mem_append_right _ hn)) hfb
    simp only [cexprNum, hop, if_true, ia, ib, cexprBin]
    exact intBin_agree hop hsla hslb hha hhb ((cEval_bin_int hop hea heb).symm.trans hc)
  | _ => simp [signedFrag] at hfrag

/-- **C05 (cexpr = C, partial).**  On the fragment the value cexpr computes (and bindgen emits) is the
value the C compiler computes. -/
theorem C05_cexpr_eq_c_partial (cenv : CEnv) (env : Env) (hagree : EnvAgree cenv env)
    (e : Expr) (hfrag : signedFrag cenv e = true) (t : CTy) (v : Int)
    (hc : cEval cenv e = .val (.int t v)) : cexprNum env e = .ok (.int v) := by
  obtain ⟨t', v', h1, _, _, hn⟩ := signedFrag_agree e (fun n _ => hagree n) hfrag
  cases hc.symm.trans h1
  exact hn

/-- `(-5 + (7 << 3)) / 2L` -/
example :
    let e := Expr.bin .div (.paren (.bin .add (.un .neg (.int true 5 .none)) (.paren (.bin .shl (.int true 7 .none) (.int true 3 .none))))) (.int true 2 .l)
    signedFrag [] e = true ∧ cEval [] e = .val (.int .long 25) ∧ cexprNum [] e = .ok (.int 25) := by
  decide +kernel

end BindgenModel.CExpr

namespace BindgenModel.ConstEmit
open BindgenModel.CExpr BindgenModel.Generated BindgenModel.MacroKind

/-- the integer literals `int_expr` / `uint_expr` print read back -/
theorem C05_print_parse_roundtrip (v : Int) :
    readInt (printInt v) = some v ∧ (0 ≤ v → readInt (printNat v.toNat) = some v) := by
  refine ⟨readInt_printInt v, fun h => ?_⟩
  rw [readInt_printNat]
  exact congrArg some (Int.toNat_of_nonneg h)

theorem C05_macro_literal_reads_back (o : MOpts) (v : Int) (h1 : i64Min ≤ v) (h2 : v ≤ i64Max) :
    ∃ k, macroKind o v = some k ∧ readInt (intLiteral k.isSigned v) = some v ∧ k.lo ≤ v ∧ v ≤ k.hi := by
  obtain ⟨k, hk, hlo, hhi, hsg⟩ := C05_kind_holds_value o v h1 h2
  refine ⟨k, hk, ?_, hlo, hhi⟩
  unfold intLiteral
  cases hs : k.isSigned with
  | true => exact readInt_printInt v
  | false =>
    -- an unsigned kind is only chosen for a non-negative value, which is its own residue mod 2^64
    have hv : 0 ≤ v := Int.not_lt.1 fun hneg => Bool.false_ne_true (hs.symm.trans (hsg hneg))
    unfold i64Max at h2
    rw [if_neg Bool.false_ne_true, Int.emod_eq_of_lt hv (by omega), readInt_printNat, Int.toNat_of_nonneg hv]

/-- **C05 (macro constants, partial).**  For a macro body in the fragment bindgen parses it, and the
constant it emits has a kind whose range contains C's value and a literal that reads back as C's value. -/
theorem C05_macro_emitted_eq_c_partial (o : MOpts) (cenv : CEnv) (env : Env) (hagree : EnvAgree cenv env)
    (e : Expr) (hfrag : signedFrag cenv e = true) (t : CTy) (v : Int)
    (hc : cEval cenv e = .val (.int t v)) :
    cexprTop env e = .ok (.int v) ∧
    ∃ k, macroKind o v = some k ∧ readInt (intLiteral k.isSigned v) = some v ∧ k.lo ≤ v ∧ v ≤ k.hi := by
  obtain ⟨t', v', h1, hsl, hh, hnum⟩ := signedFrag_agree e (fun n _ => hagree n) hfrag
  cases hc.symm.trans h1
  refine ⟨?_, C05_macro_literal_reads_back o v (hsl.i64 hh).1 (hsl.i64 hh).2⟩
  cases e <;> simp only [cexprTop, hnum]

/-- **C05 (enum values).**  Under every style the items `Enum::codegen` emits read back (aliases
resolved) as exactly the declared enumerators with their C values, duplicate, negative and 64-bit
values included. -/
theorem C05_enum_value_preserved (style : EStyle) (t : CTy) (hint : t.isFloat = false)
    (vs : List (String × Int)) (hfit : ∀ p ∈ vs, t.holds p.2 = true) (hnd : (vs.map (·.1)).Nodup) :
    readItems [] (emitEnum style t vs) = some vs := by
  have := readItems_emitVariants style.isRust t vs [] [] hfit (by simpa using hnd) (SeenOk.nil t [])
  simpa [emitEnum] using this

def EItem.defines : EItem → String
  | .lit n _ => n
  | .aliasOf n _ => n

theorem emitVariants_names (isRust : Bool) (t : CTy) (vs : List (String × Int)) (seen : List (EVal × String)) :
    (emitVariants isRust t vs seen).map EItem.defines = vs.map (·.1) := by
  induction vs generalizing seen with
  | nil => rfl
  | cons p vs ih =>
    obtain ⟨n, v⟩ := p
    simp only [emitVariants]
    split
    · cases isRust <;> simp [EItem.defines, ih]
    · simp [EItem.defines, ih]

/-- **C05 (enum, one item per enumerator).**  Under every style exactly one item is emitted per
declared enumerator, under its own name, in declaration order: duplicates of a value are kept (as
an alias or a second constant). -/
theorem C05_enum_names_in_order (style : EStyle) (t : CTy) (vs : List (String × Int)) :
    (emitEnum style t vs).map EItem.defines = vs.map (·.1) ∧ (emitEnum style t vs).length = vs.length := by
  have h := emitVariants_names style.isRust t vs []
  refine ⟨h, ?_⟩
  have := congrArg List.length h
  simpa [emitEnum] using this

theorem C05_alias_only_rust_dup (isRust : Bool) (t : CTy) (vs : List (String × Int)) (seen : List (EVal × String))
    (n tgt : String) (h : EItem.aliasOf n tgt ∈ emitVariants isRust t vs seen) : isRust = true := by
  cases isRust with
  | true => rfl
  | false => simp [emitVariants_nonRust] at h

/-- **C05 (enum repr).**  The translated repr (`--translate-enum-integer-types`, or the Rust-enum
style) has the width and signedness of the underlying C type; the untranslated repr is the C
type itself.  Table obligation on `Generated.enumReprRows`. -/
theorem C05_enum_repr_width (translate : Bool) (style : EStyle) (t : CTy) (hint : t.isFloat = false) :
    (enumRepr translate style t).bits = t.bits ∧ (enumRepr translate style t).signed = t.signed := by
  unfold enumRepr
  split
  · exact ⟨rfl, rfl⟩
  · revert hint
    cases t <;> decide +kernel

/-- every (signed, size) row of the generated ladder has exactly that width and signedness -/
theorem C05_enumReprRows_wf :
    enumReprRows.all (fun r => r.2.2.bits == 8 * r.2.1 && r.2.2.isSigned == r.1) = true := by decide +kernel

/-- `#define BIG 0xFFFFFFFFFFFFFFFF` → cexpr −1 → `i32`; C: 18446744073709551615 (unsigned long) -/
theorem C05_cexpr_ne_c_unsigned_big :
    cexprTop [] (.int false 18446744073709551615 .none) = .ok (.int (-1)) ∧
    macroKind ⟨false, false⟩ (-1) = some .I32 ∧
    cEval [] (.int false 18446744073709551615 .none) = .val (.int .ulong 18446744073709551615) ∧
    hasUnsigned [] (.int false 18446744073709551615 .none) = true := by decide +kernel

/-- `#define M1U (-1u)` → −1; C: 4294967295 (unsigned int) -/
theorem C05_cexpr_ne_c_neg_unsigned :
    cexprTop [] (.paren (.un .neg (.int true 1 .u))) = .ok (.int (-1)) ∧
    cEval [] (.paren (.un .neg (.int true 1 .u))) = .val (.int .uint 4294967295) ∧
    hasUnsigned [] (.paren (.un .neg (.int true 1 .u))) = true := by decide +kernel

/-- `#define NOTU (~0u)` → −1; C: 4294967295 -/
theorem C05_cexpr_ne_c_not_unsigned :
    cexprTop [] (.paren (.un .bnot (.int true 0 .u))) = .ok (.int (-1)) ∧
    cEval [] (.paren (.un .bnot (.int true 0 .u))) = .val (.int .uint 4294967295) ∧
    hasUnsigned [] (.paren (.un .bnot (.int true 0 .u))) = true := by decide +kernel

/-- `#define CH '\xff'` → `u8 = 255`; C: −1 -/
theorem C05_cexpr_ne_c_char_high :
    cexprTop [] (.chr .none 255) = .ok (.chr 255) ∧
    emitMacro ⟨false, false⟩ (.chr 255) = some (.chr 255) ∧
    cEval [] (.chr .none 255) = .val (.int .int (-1)) ∧ charHighLocal (.chr .none 255) = true := by decide +kernel

/-- the `f` suffix is ignored: cexpr yields the f64 nearest to the digits, C the f32 -/
theorem C05_float_suffix_ignored (b64 b32 : Nat) :
    cexprTop [] (.flt .f b64 b32 false) = .ok (.flt b64) ∧
    cEval [] (.flt .f b64 b32 false) = .val (.flt .float b32) ∧
    hasFloatSuffix (.flt .f b64 b32 false) = true :=
  ⟨rfl, rfl, rfl⟩

/-- a wide string is emitted as the narrow bytes; C has a `wchar_t` array -/
theorem C05_wide_string_narrowed (bytes : List Nat) :
    cexprTop [] (.str .L bytes) = .ok (.str bytes) ∧
    emitMacro ⟨false, false⟩ (.str bytes) = some (.bytes (bytes ++ [0])) ∧
    cEval [] (.str .L bytes) = .val (.str .L bytes true) ∧ hasWideString (.str .L bytes) = true :=
  ⟨rfl, rfl, rfl, rfl⟩

/-- with `--clang-macro-fallback`, `((unsigned long long)-1)` is carried as i64 −1 → `i32` -/
theorem C05_fallback_unsigned_wraps :
    let body := Expr.paren (.cast .ullong (.un .neg (.int true 1 .none)))
    cEval [] body = .val (.int .ullong 18446744073709551615) ∧
    cexprTop [] body = .fail ∧
    wrap64 18446744073709551615 = -1 ∧
    ∀ name, (processDef (fun _ => some (-1)) [] name body).emitted = some (.int (-1)) :=
  ⟨by decide +kernel, by decide +kernel, by decide +kernel, fun _ => rfl⟩

/-- `enum E : bool` with `--translate-enum-integer-types` under a non-Rust style: repr `u8`,
literal `true` -/
theorem C05_enum_bool_translated_mismatch :
    enumRepr true .newType .bool = .rust .U8 ∧
    variantLiteral false (extractVal .bool 1) = .bool true := by decide +kernel

/-- `wchar_t` (a signed int for the C compiler) is read as unsigned: the enumerator −1 becomes
4294967295, and `const wchar_t w = -1` prints the u64 bits into a `u32` -/
theorem C05_wchar_unsigned_mismatch :
    wcharExtract (-1) = .unsigned 4294967295 ∧
    readInt (intLiteral false (wrap64 (-1))) = some 18446744073709551615 ∧
    ¬ ((18446744073709551615 : Int) ≤ MKind.hi .U32) ∧ wcharRegion (-1) = true := by decide +kernel

/-- `long double` is spelt `u128`, an integer type (the floating literal `Var::codegen` prints for a
`const long double` is not part of the statement: known finding `constvar_long_double`) -/
theorem C05_long_double_emitted_as_u128 : rustIntName .ldouble = "u128" := by decide +kernel

end BindgenModel.ConstEmit

namespace BindgenModel.CExpr
/-- redefinition: `#define X 1`, `#define Y (X+10)`, `#define X 2` — the first definition of `X`
is emitted, the second is not, later references see 2 -/
theorem C05_redefinition_first_emitted_latest_kept (x y : String) (hxy : x ≠ y) :
    let defs := [(x, Expr.int true 1 .none),
                 (y, Expr.paren (.bin .add (.ident x) (.int true 10 .none))),
                 (x, Expr.int true 2 .none)]
    (processDefs (fun _ => none) [] defs).map (fun p => p.2.emitted) = [some (.int 1), some (.int 11), none] ∧
    (processDefs (fun _ => none) [] defs).getLast?.map (fun p => lookup p.2.env x) = some (some (.int 2)) := by
  have hyx : ¬ y = x := fun h => hxy h.symm
  simp [processDefs, processDef, cexprTop, cexprNum, lookup, cexprBin, cexprIntBin, isCexprBinOp, hxy, hyx, wrap64]

/-- that header: C at its end sees X = 2 and Y = 12, bindgen has emitted X = 1 and Y = 11 -/
theorem C05_cexpr_ne_c_redefinition :
    let defs := [("X", Expr.int true 1 .none),
                 ("Y", Expr.paren (.bin .add (.ident "X") (.int true 10 .none))),
                 ("X", Expr.int true 2 .none)]
    clookup (cFinalEnv defs) "X" = some (.int .int 2) ∧ clookup (cFinalEnv defs) "Y" = some (.int .int 12) ∧
    (processDefs (fun _ => none) [] defs).map (fun p => p.2.emitted) = [some (.int 1), some (.int 11), none] := by
  decide +kernel

/-- open reference: `#define A 1+2`, `#define B (A*3)` — cexpr substitutes the VALUE of `A`
(B = 9) where C substitutes its tokens (`1+2*3` = 7, judged by clang in the correspondence run);
the definition lies in region `p` -/
theorem C05_cexpr_open_reference :
    let defs := [("A", Expr.bin .add (.int true 1 .none) (.int true 2 .none)),
                 ("B", Expr.paren (.bin .mul (.ident "A") (.int true 3 .none)))]
    (processDefs (fun _ => none) [] defs).map (fun p => p.2.emitted) = [some (.int 3), some (.int 9)] ∧
    (defFlags [] defs (nameFlags [] defs) "B" (Expr.paren (.bin .mul (.ident "A") (.int true 3 .none)))).p = true ∧
    clookup (cFinalEnv defs) "B" = none := by
  decide +kernel

def valueAgrees : Res → CVal → Bool
  | .int v, .int _ v' => v == v'
  | .chr c, .int _ v' => Int.ofNat c == v'
  | .flt b, .flt .double b' => b == b'
  | .str bs, .str .none bs' _ => bs == bs'
  | .str bs, .str .u8 bs' _ => bs == bs'
  | _, _ => false

/-- **Full statement (macros):** every constant bindgen emits for a macro of a
header carries the value the C compiler computes for that name (at the end of the header);
what it cannot evaluate faithfully is omitted. -/
def C05_statement : Prop :=
  ∀ (defs : List (String × Expr)) (name : String) (st : Step),
    (name, st) ∈ processDefs (fun _ => none) [] defs →
    ∀ r, st.emitted = some r → ∃ cv, clookup (cFinalEnv defs) name = some cv ∧ valueAgrees r cv = true

/-- the full statement is FALSE of the model (and of bindgen: the witness is replayed against
the real code on every run — known finding `macro_unsigned_wrap`) -/
theorem C05_statement_fails : ¬ C05_statement := by
  intro h
  have h1 := h [("BIG", .int false 18446744073709551615 .none)] "BIG"
    (processDef (fun _ => none) [] "BIG" (.int false 18446744073709551615 .none)) (by decide +kernel)
    (.int (-1)) (by decide +kernel)
  revert h1
  decide +kernel

end BindgenModel.CExpr

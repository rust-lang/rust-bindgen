import BindgenModel.Model.Blocklist
import BindgenModel.Generated.BlockSites
/-! # C10 — blocklisted items are referenced but never defined; opaque types are exact blobs -/
namespace BindgenModel.Blocklist
open BindgenModel.Generated BindgenModel.Regex BindgenModel.Reach

theorem pos_of_isPow2 {n : Nat} (h : isPow2 n = true) : 0 < n := by
  simp only [isPow2, Bool.and_eq_true, bne_iff_ne] at h
  omega

theorem isPow2_iff {n : Nat} : isPow2 n = true ↔ ∃ k, n = 2 ^ k := by
  simp only [isPow2, Bool.and_eq_true, bne_iff_ne, beq_iff_eq]
  exact Nat.ne_zero_and_sub_one_eq_zero_iff_isPowerOfTwo

theorem okAlign_cases {a : Nat} :
    okAlign a = true ↔ (a = 1 ∨ a = 2 ∨ a = 4) ∨ 4 < a ∧ isPow2 a = true ∧ a ≤ 2 ^ 29 := by
  simp only [okAlign, Bool.or_eq_true, Bool.and_eq_true, decide_eq_true_eq, or_assoc, and_assoc, gt_iff_lt]

theorem okAlign_iff {a : Nat} : okAlign a = true ↔ isPow2 a = true ∧ a ≤ 2 ^ 29 := by
  by_cases h : a ≤ 4
  · -- up to 4 the powers of two are 1, 2 and 4
    revert a
    decide
  · rw [okAlign_cases]
    simp only [show 4 < a by omega, true_and, show ¬(a = 1 ∨ a = 2 ∨ a = 4) by omega, false_or]

theorem roundUp_dvd (n : Nat) {a : Nat} (ha : 0 < a) : a ∣ roundUp n a := by
  rw [roundUp, if_neg (by omega)]
  exact Nat.dvd_mul_left a _

theorem roundUp_of_dvd {n a : Nat} (h : a ∣ n) : roundUp n a = n := by
  rcases Nat.eq_zero_or_pos a with rfl | ha
  · rfl
  · obtain ⟨k, rfl⟩ := h
    rw [roundUp, if_neg (Nat.ne_of_gt ha), Nat.add_sub_assoc ha, Nat.mul_add_div ha,
      Nat.div_eq_of_lt (Nat.sub_lt ha Nat.one_pos), Nat.add_zero, Nat.mul_comm]

/-- `uN`, `[uN; len]` or `__BindgenOpaqueArray<[uN; len]>` with the truncated quotient for `len`: the
size is rounded down to the alignment -/
theorem blob_reprC_small {align : Nat} (h : align = 1 ∨ align = 2 ∨ align = 4) (size : Nat) (ffi : Bool) :
    (blob ⟨size, align⟩ ffi).bind reprC = some (size / align * align, align) := by
  have hk : knownTypeForSize align = some (.uint align) ∧ max align 1 = align ∧ align ≤ 4 := by
    rcases h with rfl | rfl | rfl <;> decide
  simp only [blob, hk, if_true]
  split
  · next h1 => simp only [h1, Option.bind_some, reprC, Nat.one_mul]
  · split <;> rfl

/-- `__BindgenOpaqueArray{align}<[u8; size]>`, whose `repr(align)` rounds the size up -/
theorem blob_reprC_large {align : Nat} (h4 : 4 < align) (hp : isPow2 align = true) (hb : align ≤ 2 ^ 29)
    (size : Nat) (ffi : Bool) :
    (blob ⟨size, align⟩ ffi).bind reprC = some (roundUp size align, align) := by
  simp only [blob, Nat.max_eq_left (show 1 ≤ align by omega), show ¬ align ≤ 4 by omega, if_false,
    Option.bind_some, reprC, hp, hb, decide_true, Bool.and_self, if_true]

/-- `blob_exact`: for every alignment the code handles (1, 2, 4, powers of two above 4 that rustc
accepts) that divides the size — true of every complete C type — the blob has exactly the C size and
alignment. -/
theorem C10_blob_exact (size align : Nat) (ffi : Bool) (ha : okAlign align = true) (hd : align ∣ size) :
    (blob ⟨size, align⟩ ffi).bind reprC = some (size, align) := by
  -- rounded down or up, a multiple of the alignment stays what it is
  rcases okAlign_cases.mp ha with h | ⟨h4, hp, hb⟩
  · rw [blob_reprC_small h, Nat.div_mul_cancel hd]
  · rw [blob_reprC_large h4 hp hb, roundUp_of_dvd hd]

/-- Whether `a` is said again by `repr(align(a))` or by a zero-length `[uN; 0]` field, the struct
around a blob of alignment `a` only rounds the size up to `a` once more. -/
theorem OpaqueStruct.reprC_of_blob {a bs : Nat} {ty : RTy} (ha : okAlign a = true)
    (hty : Blocklist.reprC ty = some (bs, a)) (byField : Bool) :
    OpaqueStruct.reprC ⟨a, byField, ty⟩ = some (roundUp bs a, a) := by
  have hp := okAlign_iff.mp ha
  cases byField with
  | true =>
    have hle : (if a = 8 ∨ a = 4 ∨ a = 2 then a else 1) ≤ a := by
      split
      · exact Nat.le_refl a
      · exact pos_of_isPow2 hp.1
    simp only [OpaqueStruct.reprC, hty, if_true, Nat.max_eq_right hle]
  | false =>
    simp only [OpaqueStruct.reprC, hty, Bool.false_eq_true, if_false, hp.1, hp.2, decide_true, Bool.and_self,
      if_true, Nat.max_self]

/-- `opaque_exact`: the struct emitted for an opaque type — one `_bindgen_opaque_blob` field under
`#[repr(C)] #[repr(align(A))]` (or the zero-length `_bindgen_align` field when the type has
bit-fields) — has exactly the C size and alignment. -/
theorem C10_opaque_exact (size align : Nat) (hasBitfields : Bool) (ha : okAlign align = true)
    (hd : align ∣ size) :
    (emitOpaque ⟨size, align⟩ hasBitfields).bind OpaqueStruct.reprC = some (size, align) := by
  obtain ⟨ty, hty, hr⟩ := Option.bind_eq_some_iff.mp (C10_blob_exact size align false ha hd)
  simp only [emitOpaque, hty, Option.map_some, Option.bind_some, OpaqueStruct.reprC_of_blob ha hr,
    roundUp_of_dvd hd]

/-- region of known finding `blob_padding_overaligned`: `blob` asked for an alignment above 4 that does
not divide the size (`StructLayoutTracker::pad_field` asks for `(padding_bytes, min(field_align, 8))`) -/
def blobOverAligned (l : Layout) : Bool := max l.align 1 > 4 && l.size % max l.align 1 != 0

/-- In that region the wrapper `__BindgenOpaqueArray{align}<[u8; size]>` is strictly larger than the
bytes asked for: a padding field built from it moves the following fields. -/
theorem C10_fails_on_overaligned_padding (size align : Nat) (ffi : Bool) (ha : 4 < align)
    (hp : isPow2 align = true) (hb : align ≤ 2 ^ 29) (hd : ¬ align ∣ size) :
    blobOverAligned ⟨size, align⟩ = true ∧
    (blob ⟨size, align⟩ ffi).bind reprC = some (roundUp size align, align) ∧ roundUp size align ≠ size := by
  refine ⟨?_, blob_reprC_large ha hp hb size ffi, fun h => hd (h ▸ roundUp_dvd size (by omega))⟩
  simp only [blobOverAligned, Nat.max_eq_left (show 1 ≤ align by omega), Bool.and_eq_true, decide_eq_true_eq,
    bne_iff_ne, ne_eq, gt_iff_lt]
  exact ⟨ha, fun h => hd (Nat.dvd_of_mod_eq_zero h)⟩

/-- the witness `struct W { char pre; struct O m0; }` with `O` aligned to 16: 15 padding bytes "aligned" to 8 -/
example : (blob ⟨15, 8⟩ false).bind reprC = some (16, 8) := by decide +kernel

/-! #### regions outside the hypotheses -/

/-- `known_type_for_size(3)` is `None`, and the `unwrap()` on it panics -/
theorem C10_blob_panics_on_align_3 (size : Nat) (ffi : Bool) : blob ⟨size, 3⟩ ffi = none := by
  simp [blob, knownTypeForSize]

theorem C10_blob_align_zero (size : Nat) (ffi : Bool) : blob ⟨size, 0⟩ ffi = blob ⟨size, 1⟩ ffi := rfl

/-- the emitted `#[repr(C, align(6))]` is rejected by rustc -/
theorem C10_fails_on_nonpow2_align : (blob ⟨12, 6⟩ false).bind reprC = none := by decide +kernel

/-- up to 4 the division truncates and the blob is too small; above 4 `repr(align)` rounds up and it is
too large -/
theorem C10_fails_on_size_not_multiple :
    (blob ⟨6, 4⟩ false).bind reprC = some (4, 4) ∧ (blob ⟨10, 4⟩ false).bind reprC = some (8, 4) ∧
    (blob ⟨12, 8⟩ false).bind reprC = some (16, 8) := by decide +kernel

/-- more than `rustDeriveInArrayLimit` = 32 units: wrapped in `__BindgenOpaqueArray` -/
example : blob ⟨132, 4⟩ false = some (.opaqueArray (.array (.uint 4) 33)) ∧
    blob ⟨128, 4⟩ false = some (.array (.uint 4) 32) ∧ blob ⟨4, 4⟩ false = some (.uint 4) ∧
    blob ⟨64, 16⟩ false = some (.opaqueArrayAligned 16 64) := by decide +kernel

example : okAlign 16 = true ∧ (16 ∣ 64) := by decide +kernel

theorem forSizeLoop_pow2 (p size f n : Nat) (h : ∃ k, n = 2 ^ (k + 1) ∧ 2 ^ k ∣ size ∧ 2 ^ k ≤ max p 1) :
    ∃ j, forSizeLoop p size f n = 2 ^ (j + 1) ∧ 2 ^ j ∣ size ∧ 2 ^ j ≤ max p 1 := by
  fun_induction forSizeLoop p size f n with
  | case1 => exact h
  | case2 f n hc ih =>
    obtain ⟨k, rfl, _, _⟩ := h
    simp only [Bool.and_eq_true, beq_iff_eq, decide_eq_true_eq] at hc
    exact ih ⟨k + 1, rfl, Nat.dvd_of_mod_eq_zero hc.1, Nat.le_trans hc.2 (Nat.le_max_left ..)⟩
  | case3 => exact h

/-- the harness compares `forSizeInternal` with `Layout::for_size_internal` on random sizes -/
theorem forSizeInternal_ok (p size : Nat) (hp : p ≤ 2 ^ 29) :
    okAlign (forSizeInternal p size).align = true ∧ (forSizeInternal p size).align ∣ size := by
  obtain ⟨j, hj, hd, hle⟩ := forSizeLoop_pow2 p size 64 2 ⟨0, rfl, Nat.one_dvd _, Nat.le_max_right ..⟩
  have : (forSizeInternal p size).align = 2 ^ j := by
    rw [forSizeInternal, hj, Nat.pow_succ, Nat.mul_div_cancel _ (by decide : 0 < 2)]
  rw [this]
  exact ⟨okAlign_iff.mpr ⟨isPow2_iff.mpr ⟨j, rfl⟩, by omega⟩, hd⟩

theorem C10_for_size_ok_small : ∀ s : Fin 1024, 0 < s.val →
    okAlign (forSizeInternal 8 s.val).align = true ∧ (forSizeInternal 8 s.val).align ∣ s.val :=
  fun s _ => forSizeInternal_ok 8 s.val (by decide)

/-! ### blocklisted items are never defined -/

theorem mem_walk (lookup : Nat → Option WalkItem) :
    ∀ (fuel root x : Nat), x ∈ walk lookup fuel root →
      ∃ it, lookup x = some it ∧ processBeforeCodegen it = true := by
  intro fuel root x h
  fun_induction walk lookup fuel root with
  | case1 | case2 | case3 => cases h
  | case4 f id it hl hp hm ih =>
    rcases List.mem_cons.mp h with rfl | h
    · exact ⟨it, hl, by simpa using hp⟩
    · obtain ⟨c, _, hc⟩ := List.mem_flatMap.mp h
      exact ih c hc
  | case5 f id it hl hp hm =>
    cases List.mem_singleton.mp h
    exact ⟨it, hl, by simpa using hp⟩

/-- `never_defined`: code generation never gets past `process_before_codegen` for a blocklisted item,
wherever the walk starts. -/
theorem C10_never_defined (lookup : Nat → Option WalkItem) (fuel root x : Nat) (it : WalkItem)
    (hx : lookup x = some it) (hb : it.blocklisted = true) : x ∉ walk lookup fuel root := by
  intro h
  obtain ⟨it', h1, h2⟩ := mem_walk lookup fuel root x h
  cases hx.symm.trans h1
  simp [processBeforeCodegen, hb] at h2

/-- Not stated: replaced types, and the function patterns on methods, constructors and destructors. -/
theorem C10_isBlocklisted_sources (o : BlockOptions) (it : BItem) :
    (it.hide = true → isBlocklisted o it = true) ∧
    (o.items.matches it.name = true → isBlocklisted o it = true) ∧
    (it.cls = .type → o.types.matches it.name = true → isBlocklisted o it = true) ∧
    (it.cls = .var → o.vars.matches it.name = true → isBlocklisted o it = true) ∧
    (it.cls = .fnFunction → o.functions.matches it.name = true → isBlocklisted o it = true) ∧
    (∀ f, it.file = some f → o.files.isEmpty = false → o.files.matches f = true → isBlocklisted o it = true) := by
  -- `if a then true else b` is `a || b`: `isBlocklisted` is the disjunction of its sources
  simp only [isBlocklisted, Bool.if_true_left, Bool.decide_eq_true, Bool.or_eq_true]
  refine ⟨fun h => ?_, fun h => ?_, fun hc h => ?_, fun hc h => ?_, fun hc h => ?_, fun f hf hne hm => ?_⟩
  · simp [h]
  · simp [h]
  · simp [hc, h]
  · simp [hc, h]
  · simp [hc, h]
  · simp [hf, hne, hm]

theorem C10_isBlocklisted_only (o : BlockOptions) (it : BItem) (h1 : it.hide = false)
    (h2 : ∀ f, it.file = some f → o.files.matches f = false) (h3 : o.items.matches it.name = false)
    (h4 : o.types.matches it.name = false) (h5 : o.functions.matches it.name = false)
    (h6 : o.vars.matches it.name = false) (h7 : it.replaced = false) : isBlocklisted o it = false := by
  simp only [isBlocklisted, Bool.if_true_left, Bool.decide_eq_true, h1, h3, Bool.false_or]
  cases hf : it.file with
  | none => cases it.cls <;> simp [h4, h5, h6, h7]
  | some f => cases it.cls <;> simp [h2 f hf, h4, h5, h6, h7]

/-! ### every other item is generated as before -/

theorem C10_others_unchanged (lookup : Nat → Option WalkItem) (b : Nat)
    (hb : ∀ it, lookup b = some it → it.isModule = false) :
    ∀ (fuel root : Nat),
      walk (fun i => if i = b then (lookup b).map (fun it => { it with blocklisted := true }) else lookup i) fuel root
        = (walk lookup fuel root).filter (fun x => x != b) := by
  -- `inCodegen` is untouched, so a module visits the same children
  have hchild : childInCodegen
      (fun i => if i = b then (lookup b).map (fun it => { it with blocklisted := true }) else lookup i)
        = childInCodegen lookup := by
    funext c
    simp only [childInCodegen]
    by_cases hc : c = b
    · rw [hc, if_pos rfl]
      cases lookup b <;> rfl
    · rw [if_neg hc]
  intro fuel
  induction fuel with
  | zero => exact fun _ => rfl
  | succ f ih =>
    intro root
    rw [walk, walk]
    by_cases hr : root = b
    · -- `b` itself: nothing on the left; on the right at most `[b]`, as `b` is no module
      rw [hr, if_pos rfl]
      cases hl : lookup b with
      | none => rfl
      | some it => simp [processBeforeCodegen, hb it hl, apply_ite (List.filter _)]
    · -- elsewhere the item is the same; the filter keeps `root` and goes through `flatMap` to the calls of `ih`
      rw [if_neg hr]
      cases lookup root with
      | none => rfl
      | some it =>
        simp only [apply_ite (List.filter _), List.filter_nil, List.filter_cons, List.filter_flatMap, bne_iff_ne,
          ne_eq, hr, not_false_eq_true, if_true, hchild, ← ih]

/-! ### uses still name the type -/

/-- `still_named`, as an obligation on the generated inventory of sites: under bindgen/codegen/ the
blocklist is consulted only by the item gate `process_before_codegen`, the Objective-C method gate and
the `__BindgenBitfieldUnit` helper.  No type-rendering function (`to_rust_ty`, `build_path`, field and
signature code generation) looks at it, so a use of a blocklisted type is spelled like any other. -/
theorem C10_still_named :
    blocklistSitesInCodegen =
      [.process_before_codegen, .objc_method_codegen, .prepend_bitfield_unit_type, .prepend_bitfield_unit_type] := by
  decide +kernel

/-! ### derives through a blocklisted type -/

theorem foldl_joinDerive_no {l : List CanDerive} {acc : CanDerive} (h : acc = .no ∨ .no ∈ l) :
    l.foldl joinDerive acc = .no := by
  induction l generalizing acc with
  | nil => exact h.resolve_right nofun
  | cons a l ih =>
    refine ih ?_
    rcases h with rfl | h
    · exact .inl rfl
    · rcases List.mem_cons.mp h with rfl | h
      · exact .inl (by cases acc <;> rfl)
      · exact .inr h

/-- `no_derive_through_blocklisted`: without callbacks a non-allow-listed (blocklisted) type answers
`No` for every trait unless it has a stdint name, and a compound type with such a member cannot derive. -/
theorem C10_no_derive_through_blocklisted (sz : Bool) (name : Option String) (members : List CanDerive)
    (hn : ∀ n, name = some n → isStdintType sz n = false)
    (hm : blocklistedTypeImplementsTrait true none sz name ∈ members) :
    blocklistedTypeImplementsTrait true none sz name = .no ∧ compDerive members = .no := by
  have h1 : blocklistedTypeImplementsTrait true none sz name = .no := by
    unfold blocklistedTypeImplementsTrait
    cases name with
    | none => rfl
    | some n => simp [hn n rfl]
  exact ⟨h1, foldl_joinDerive_no (.inr (h1 ▸ hm))⟩

/-- The same at the reference through which a container uses the type: when the blocklisted type `T`
is not opaque, the reference answers `T`'s answer, `No`.  `_partial`: `tOpaque = false` is needed, see
`C10_fails_on_blocklisted_and_opaque`. -/
theorem C10_no_derive_through_ref_partial (rAllowlisted : Bool) :
    deriveThroughRef rAllowlisted false .no = .no := by
  cases rAllowlisted <;> rfl

/-- `derive_through_blocklisted_opaque`: a type blocklisted through its own `hide` annotation (or its
file) and opaque.  The reference item is neither annotated nor in that file, so it is allow-listed; it
is opaque because its target is; `constrain_type` answers `Yes` from the layout before ever asking the
blocklisted type: the container derives through it. -/
theorem C10_fails_on_blocklisted_and_opaque :
    deriveThroughRef true true .no = .yes ∧ compDerive [deriveThroughRef true true .no] = .yes := by decide +kernel

theorem C10_callback_vouches (sz : Bool) (n : String) (a : Option CanDerive) :
    blocklistedTypeImplementsTrait false a sz (some n) = a.getD .no := by
  cases a <;> rfl

/-- stdint names are mapped to primitives regardless of blocklisting -/
theorem C10_stdint_yes : blocklistedTypeImplementsTrait true none false (some "uint8_t") = .yes := by
  decide +kernel

/-! ### known finding: a namespace first opened in a blocklisted file -/

/-- `[^/]*inc\.h`-like file pattern reduced to the literal `i` for the witness -/
def exFileSet : RegexSet := ⟨[some (lit 'i')]⟩

def exBlockOpts : BlockOptions :=
  { types := ⟨[]⟩, functions := ⟨[]⟩, vars := ⟨[]⟩, files := exFileSet, items := ⟨[]⟩, opaqueTypes := ⟨[]⟩ }

/-- module `ns1` (id 1) located in the blocklisted file `i` -/
def exNs : BItem := { id := 1, cls := .module, hide := false, annOpaque := false, file := some ['i'], name := ['n'] }
/-- `C6` (id 2) located in file `m` -/
def exC6 : BItem := { id := 2, cls := .type, hide := false, annOpaque := false, file := some ['m'], name := ['C'] }

def exWalkLookup : Nat → Option WalkItem
  | 0 => some ⟨0, true, [1], true, false, true⟩
  | 1 => some ⟨1, true, [2], true, isBlocklisted exBlockOpts exNs, true⟩
  | 2 => some ⟨2, false, [], true, isBlocklisted exBlockOpts exC6, true⟩
  | _ => none

/-- `blocklist_file_hides_namespace`: `C6` is not blocklisted and is in `codegen_items`, but the module
item of its namespace is blocklisted through the file test, so the walk never reaches it. -/
theorem C10_fails_on_namespace_first_opened_in_blocklisted_file :
    isBlocklisted exBlockOpts exC6 = false ∧ isBlocklisted exBlockOpts exNs = true ∧
    walk exWalkLookup 5 0 = [0] := by decide +kernel

/-! ### "types that contain it keep their correct layout" -/

/-- a member of a containing record: emitted faithfully (its Rust type has the C layout), or as
the opaque struct of `emitOpaque` -/
inductive Member where
  | faithful (size align : Nat)
  | blobbed (size align : Nat) (hasBitfields : Bool)
deriving Repr, DecidableEq

def Member.c : Member → Nat × Nat
  | .faithful s a => (s, a)
  | .blobbed s a _ => (s, a)

/-- the layout rustc gives to the member's emitted type (`none`: rejected by rustc / `blob` panics) -/
def Member.rust : Member → Option (Nat × Nat)
  | .faithful s a => some (s, a)
  | .blobbed s a bf => (emitOpaque ⟨s, a⟩ bf).bind OpaqueStruct.reprC

/-- precondition on opaque members (what `C10_opaque_exact` needs; outside it: known findings) -/
def Member.ok : Member → Prop
  | .faithful _ _ => True
  | .blobbed s a _ => okAlign a = true ∧ a ∣ s

/-- rustc's `repr(C)` layout: offsets of the members, then (size, align) of the struct -/
def reprCStruct (ms : List (Nat × Nat)) : List Nat × Nat × Nat :=
  let r := ms.foldl (fun (acc : List Nat × Nat × Nat) m =>
      let off := roundUp acc.2.1 m.2
      (acc.1 ++ [off], off + m.1, max acc.2.2 m.2)) ([], 0, 1)
  (r.1, roundUp r.2.1 r.2.2, r.2.2)

def allSome {α : Type} : List (Option α) → Option (List α)
  | [] => some []
  | none :: _ => none
  | some a :: r => (allSome r).map (a :: ·)

theorem members_rust_eq_c (ms : List Member) (h : ∀ m ∈ ms, m.ok) :
    allSome (ms.map Member.rust) = some (ms.map Member.c) := by
  induction ms with
  | nil => rfl
  | cons m ms ih =>
    have hm := h m (List.mem_cons_self ..)
    have ih' := ih (fun x hx => h x (List.mem_cons_of_mem _ hx))
    cases m with
    | faithful s a => simp [Member.rust, Member.c, allSome, ih']
    | blobbed s a bf =>
      have := C10_opaque_exact s a bf hm.1 hm.2
      simp [Member.rust, Member.c, allSome, ih', this]

/-- Whichever members of a record are emitted as opaque blobs, `reprCStruct` is given the same
(size, alignment) pairs as with no member opaque, the C ones.  That is all of it (`members_rust_eq_c`):
nothing `reprCStruct` computes is used, the equation holds of any function in its place. -/
theorem C10_container_layout_kept (ms : List Member) (h : ∀ m ∈ ms, m.ok) :
    (allSome (ms.map Member.rust)).map reprCStruct = some (reprCStruct (ms.map Member.c)) := by
  rw [members_rust_eq_c ms h]
  rfl

theorem C10_container_layout_opaque_irrelevant (pre post : List Member) (s a : Nat) (bf : Bool)
    (hpre : ∀ m ∈ pre, m.ok) (hpost : ∀ m ∈ post, m.ok) (ha : okAlign a = true) (hd : a ∣ s) :
    (allSome ((pre ++ Member.blobbed s a bf :: post).map Member.rust)).map reprCStruct =
    (allSome ((pre ++ .faithful s a :: post).map Member.rust)).map reprCStruct := by
  have hok (x : Member) (hx : x.ok) : ∀ m ∈ pre ++ x :: post, m.ok :=
    List.forall_mem_append.mpr ⟨hpre, List.forall_mem_cons.mpr ⟨hx, hpost⟩⟩
  rw [C10_container_layout_kept _ (hok (.blobbed s a bf) ⟨ha, hd⟩),
    C10_container_layout_kept _ (hok (.faithful s a) trivial)]
  simp only [List.map_append, List.map_cons, Member.c]

/-- `struct { char c; Opaque16 o /*16 bytes, align 16*/; int i; }` -/
example : (allSome ([Member.faithful 1 1, Member.blobbed 16 16 false, .faithful 4 4].map Member.rust)).map reprCStruct
    = some ([0, 16, 32], 48, 16) := by decide +kernel

end BindgenModel.Blocklist

import BindgenModel.Lemmas.Layout
import BindgenModel.Lemmas.StructLayout
import BindgenModel.Lemmas.StructLayoutOpaque
import BindgenModel.Lemmas.StructLayoutPacked
import BindgenModel.Lemmas.StructLayoutUnion
import BindgenModel.Lemmas.StructLayoutUnpacked
import BindgenModel.Generated.LayoutConsts
/-!
# C02 — generated types match the C compiler's size, alignment and offsets

About `Model/{Layout,StructLayout,CompCodegen}.lean`.  Target: `C02_statement consistent`, where `consistent c` says
that the numbers of the record `c` are what a C compiler can produce: for every option set `o`, `reprC (emit o c)` has
the size and alignment of `c.layout` and the members at `cOffsets 0 c.fields`.  It is proved in layers (DESIGN.md §5
C02), each unbounded in the number and sizes of members; every excluded region has a witness of the negation
(`C02_fails_on_*`; the hypotheses on `u64Align` of layers 5 and 7 have none).  The layers' proofs are in
`Lemmas/Layout.lean` and `Lemmas/StructLayout*.lean`; their theorems are restated here so that the property's
obligations are listed in one file.

1. `alignTo` lemmas, `C02_blob_exact`;
2. `C02_plain_struct`, `C02_explicit_padding_irrelevant` (region `padInexact` excluded);
3. `C02_packed_struct`: `repr(C, packed)`, and `#pragma pack(N)` → `packed(N)`;
4. `C02_plain_struct_any_align`: member alignments 1, 2, 4 or any multiple of 8; emits `repr(align(N))`;
5. `C02_with_units`: bit-field allocation units among plain members, `pad_struct` after a trailing unit,
   `_bindgen_align` (regions `bitfield_unit_misplaced`, `explicit_padding_double_tail`, `pad_blob_inexact` excluded);
6. `C02_unions`: Rust `union` form and `__BindgenUnionField` + blob form (region `explicit_padding_union_wrapper` excluded);
7. `C02_opaque`: one exact blob, `repr(align)` / `_bindgen_align`.

Not covered by an unbounded theorem: arrays of over-aligned elements (the `saw_field` hack), C++ bases / vtables,
records mixing the packed / aligned regions at the end of this file.
-/
namespace BindgenModel.C02
open BindgenModel.Layout BindgenModel.CompCodegen

def C02_statement (consistent : CAgg → Prop) : Prop :=
  ∀ (o : Opts) (c : CAgg), consistent c →
    ∃ r l, emit o c = some r ∧ reprC r = some l ∧
      (∀ cl, c.layout = some cl → l.size = cl.size ∧ l.align = cl.align) ∧
      l.userOffsets = cOffsets 0 c.fields

/-! The models' constants are those of /repo's source (`Generated/LayoutConsts.lean`, regenerated on every run). -/

theorem C02_consts_maxGuaranteedAlign :
    StructLayout.maxGuaranteedAlign = Generated.LayoutConsts.maxGuaranteedAlign := by decide
theorem C02_consts_arrayLimit : Layout.arrayLimit = Generated.LayoutConsts.arrayLimit := by decide
theorem C02_consts_knownSizes :
    ∀ n, n ≤ 64 → (knownTypeForSize n).isSome = Generated.LayoutConsts.knownSizes.contains n := by decide
theorem C02_consts_blobThreshold : Generated.LayoutConsts.blobSmallAlignThreshold = 4 := by decide

theorem C02_alignTo_ge (s a : Nat) : s ≤ alignTo s a := alignTo_ge s a
theorem C02_alignTo_mod (s a : Nat) (ha : 0 < a) : alignTo s a % a = 0 := alignTo_mod s a ha
theorem C02_alignTo_least (s a m : Nat) (ha : 0 < a) (hm : m % a = 0) (hs : s ≤ m) : alignTo s a ≤ m :=
  alignTo_least s a m hm hs
theorem C02_alignTo_of_mod (s a : Nat) (h : s % a = 0) : alignTo s a = s := alignTo_of_mod_eq_zero s a h

theorem C02_alignTo_idem (s a : Nat) : alignTo (alignTo s a) a = alignTo s a := alignTo_idem s a

theorem C02_alignTo_mono (s s' a : Nat) (h : s ≤ s') : alignTo s a ≤ alignTo s' a := by
  by_cases ha : a = 0
  · subst ha; simpa [alignTo] using h
  · exact alignTo_least s a _ (alignTo_mod s' a (Nat.pos_of_ne_zero ha)) (Nat.le_trans h (alignTo_ge s' a))

/-- `align_to(s, a) = ⌈s / a⌉ · a`, the number C's layout rule uses. -/
theorem C02_alignTo_closed_form (s a : Nat) (ha : 0 < a) : alignTo s a = (s + a - 1) / a * a := by
  obtain ⟨hmod, hge, hlt⟩ := alignTo_spec s a ha
  obtain ⟨k, hk⟩ := Nat.dvd_of_mod_eq_zero hmod
  have hq : (s + a - 1) / a = k := by
    apply Nat.div_eq_of_lt_le
    · rw [Nat.mul_comm]; rw [hk] at hge; omega
    · rw [Nat.mul_comm, Nat.mul_succ]; rw [hk] at hlt; omega
  rw [hq, hk, Nat.mul_comm]

theorem C02_blob_exact (l : Layout) (ffi : Bool) (h3 : l.align ≠ 3) (hdvd : l.size % (max l.align 1) = 0) :
    (blob l ffi).size = l.size ∧ (blob l ffi).align = max l.align 1 := blob_exact l ffi h3 hdvd
theorem C02_forSize_dvd (ptr size : Nat) : size % (forSize ptr size).align = 0 ∧ (forSize ptr size).size = size :=
  forSize_dvd ptr size

/-- `ClangPlain`: not packed, data members of known layout and alignment 1, 2, 4 or 8, at the offsets a C compiler
assigns.  Outside the region `padInexact` the emitted `repr(C)` struct has the C size, alignment and member offsets. -/
theorem C02_plain_struct (o : Opts) (c : CAgg) (h : ClangPlain c = true) (hp : padInexact o c = false) :
    ∃ r l, emit o c = some r ∧ reprC r = some l ∧
      (∀ cl, c.layout = some cl → l.size = cl.size ∧ l.align = cl.align) ∧
      l.userOffsets = cOffsets 0 c.fields := plain_struct o c h hp

/-- `--explicit-padding` changes only padding fields, never a number. -/
theorem C02_explicit_padding_irrelevant (o : Opts) (c : CAgg) (h : ClangPlain c = true)
    (hp : padInexact { o with forcePadding := false } c = false) :
    ∃ r₁ l₁ r₂ l₂, emit { o with forcePadding := true } c = some r₁ ∧ reprC r₁ = some l₁ ∧
      emit { o with forcePadding := false } c = some r₂ ∧ reprC r₂ = some l₂ ∧
      l₁.size = l₂.size ∧ l₁.align = l₂.align ∧ l₁.userOffsets = l₂.userOffsets :=
  explicit_padding_irrelevant o c h hp

theorem C02_pad_inexact_force (o : Opts) (c : CAgg) (hf : o.forcePadding = true) : padInexact o c = false :=
  padInexact_force o c hf

/-- `struct { char c; long x __attribute__((aligned(16))); }` — clang: size 32, align 16, `x` at 16; the emitted
struct puts `x` at 24. -/
theorem C02_fails_on_pad_inexact :
    ClangPlain witnessAligned8 = true ∧ padInexact {} witnessAligned8 = true ∧
    ((emit {} witnessAligned8).bind reprC).map (fun l => (l.size, l.align, l.userOffsets)) = some (32, 16, [(0, 0), (1, 24)]) := by
  decide

/-- `struct { int a; __int128 b; }` — clang: size 32, align 16, `b` at 16; emitted: size 48, `b` at 32. -/
theorem C02_fails_on_pad_inexact_int128 :
    padInexact {} witnessInt128 = true ∧
    ((emit {} witnessInt128).bind reprC).map (fun l => (l.size, l.align, l.userOffsets)) = some (48, 16, [(0, 0), (1, 32)]) := by
  decide

example : ClangPlain witnessPlain = true ∧ padInexact {} witnessPlain = false ∧
    padInexact { forcePadding := true } witnessPlain = false := by decide

/-- `ClangPacked`: `__attribute__((packed))` (alignment 1), or `#pragma pack(N)` recognised through a member more
aligned than the record.  The emitted `repr(C, packed(N))` struct has the C size, alignment and member offsets. -/
theorem C02_packed_struct (o : Opts) (c : CAgg) (h : ClangPacked c = true) :
    ∃ r l, emit o c = some r ∧ reprC r = some l ∧
      (∀ cl, c.layout = some cl → l.size = cl.size ∧ l.align = cl.align ∧ r.packed = some cl.align) ∧
      l.userOffsets = cOffsets 0 c.fields := packed_struct o c h

/-- Unions, as a Rust `union` or as a struct of zero-sized `__BindgenUnionField`s plus a blob: C size and alignment,
every member at offset 0.  `hf` excludes `--explicit-padding` on the wrapper form
(`C02_fails_on_explicit_padding_union_wrapper`). -/
theorem C02_unions (o : Opts) (c : CAgg) (h : ClangUnion c = true)
    (hf : o.forcePadding = false ∨ (c.isRustUnion o).1 = true) :
    ∃ r l, emit o c = some r ∧ reprC r = some l ∧
      (∀ cl, c.layout = some cl → l.size = cl.size ∧ l.align = cl.align) ∧
      l.userOffsets.all (fun p => p.2 == 0) = true ∧
      l.userOffsets.map (·.1) = List.range c.fields.length ∧
      r.isUnion = (c.isRustUnion o).1 := union_layout o c h hf

/-- An opaque record is one blob of the C size and alignment; no member is emitted.  `hu`: the
`_bindgen_align: [u64; 0]` helper. -/
theorem C02_opaque (o : Opts) (c : CAgg) (h : ClangOpaque c = true) (hu : o.u64Align ≤ 8) :
    ∃ r l, emit o c = some r ∧ reprC r = some l ∧
      (∀ cl, c.layout = some cl → l.size = cl.size ∧ l.align = cl.align) ∧
      l.userOffsets = [] ∧ r.isUnion = (c.isRustUnion o).1 ∧
      (r.fields.filter (fun f => f.name == .opaqueBlob)).length = 1 := opaque_layout o c h hu

/-- An opaque union is emitted as `union { _bindgen_opaque_blob }`: the keyword is not forced to `struct` on the
opaque path. -/
theorem C02_opaque_union_keyword :
    (emit {} { isUnion := true, layout := some { size := 4, align := 4 }, fields := [], isOpaque := true }).map (·.isUnion) = some true := by
  decide

example : ClangPacked witnessPackedOk = true ∧ ClangUnion witnessUnionOk = true ∧ ClangOpaque witnessOpaqueOk = true := by decide

/-- As `C02_plain_struct`, with member alignments 1, 2, 4 or a positive multiple of 8 (`ClangPlainA`); over-aligned
members make the code emit `repr(align(N))`. -/
theorem C02_plain_struct_any_align (o : Opts) (c : CAgg) (h : ClangPlainA c = true) (hp : padInexact o c = false) :
    ∃ r l, emit o c = some r ∧ reprC r = some l ∧
      (∀ cl, c.layout = some cl → l.size = cl.size ∧ l.align = cl.align) ∧
      l.userOffsets = cOffsets 0 c.fields := plain_struct_any_align o c h hp

/-- `ClangUnits`: bit-field allocation units are byte arrays of alignment 1 that start where the previous field ended
(otherwise region `bitfield_unit_misplaced`).  Plain members keep their C offsets, every unit sits at the byte
libclang's bit offsets say, size and alignment are C's (`pad_struct` after a trailing unit, `_bindgen_align` /
`repr(align)`).  `hf` excludes region `explicit_padding_double_tail`; `padInexactU` is `padInexact` with units
advancing the running offset. -/
theorem C02_with_units (o : Opts) (c : CAgg) (h : ClangUnits c = true)
    (hf : o.forcePadding = false) (hu : o.u64Align = 8)
    (hpu : padInexactU o c = false) (hnd : ((cUnitOffsets c.fields).map Prod.fst).Nodup) :
    ∃ r l, emit o c = some r ∧ reprC r = some l ∧
      (∀ cl, c.layout = some cl → l.size = cl.size ∧ l.align = cl.align) ∧
      l.userOffsets = cOffsets 0 c.fields ∧
      (∀ n off, (n, off) ∈ cUnitOffsets c.fields → l.unitOffset n = some off) :=
  with_units o c h hf hu hpu hnd

/-- `hpu` of `C02_with_units` is needed: the member C has at 16 is emitted at 32.  (For `hnd`: `with_units_cex_dup` in
`Lemmas/StructLayoutUnpacked.lean`.) -/
theorem C02_with_units_needs_padInexactU :
    ClangUnits withUnitsCexPad = true ∧ padInexact {} withUnitsCexPad = false ∧ padInexactU {} withUnitsCexPad = true ∧
    ((emit {} withUnitsCexPad).bind reprC).map (fun l => (l.size, l.userOffsets)) = some (48, [(1, 32)]) ∧
    cOffsets 0 withUnitsCexPad.fields = [(1, 16)] := by decide

example : ClangPlainA witnessAlign16 = true ∧ padInexact {} witnessAlign16 = false ∧
    ClangUnits witnessDoubleTail = true ∧ padInexactU {} witnessDoubleTail = false := by decide

/-! ## Further excluded regions

Each region is a decidable predicate of `Model/LayoutRegions.lean` (the driver evaluates it, the harness mirrors it on
the real aggregate).  Each lemma shows, on a record a C compiler produces, that `reprC ∘ emit` differs from the C layout
or that rustc refuses the emitted type (`reprC = none`); the check replays every witness on the real toolchain
(`corpus/C02/*.h`). -/

def summary (o : Opts) (c : CAgg) : Option (Option (Nat × Nat × List (Nat × Nat))) :=
  (emit o c).map fun r => (reprC r).map fun l => (l.size, l.align, l.userOffsets)

/-- `packed(8)` together with `align(8)`: rustc E0587 -/
theorem C02_fails_on_packed_align_conflict :
    (emit {} witnessPackedAlign).map packedAlignConflict = some true ∧ summary {} witnessPackedAlign = some none := by decide

/-- a packed struct containing a `repr(align)` struct: rustc E0588 -/
theorem C02_fails_on_packed_contains_aligned :
    (emit {} witnessPackedContains).map packedContainsAligned = some true ∧ summary {} witnessPackedContains = some none := by decide

/-- `packed` dropped in favour of `align(2)`: Rust alignment 16, C alignment 2 -/
theorem C02_fails_on_packed_dropped :
    (emit {} witnessPackedDropped).map (packedDropped witnessPackedDropped) = some true ∧
    summary {} witnessPackedDropped = some (some (16, 16, [(0, 0)])) := by decide

/-- `packed(4)` puts `b` at 4, C (packed + aligned(4)) has it at 1 -/
theorem C02_fails_on_packedN_misplaces :
    (emit {} witnessPackedN).map (packedNMisplaces witnessPackedN) = some true ∧
    summary {} witnessPackedN = some (some (12, 4, [(0, 0), (1, 4)])) := by decide

/-- a union's bit-field unit is as long as its last bit-field only: Rust size 1, C size 6 -/
theorem C02_fails_on_union_unit_short :
    unionUnitShort witnessUnionUnitShort = true ∧ summary {} witnessUnionUnitShort = some (some (1, 1, [])) := by decide

/-- `--explicit-padding`: tail padded twice: Rust size 32, C size 24 -/
theorem C02_fails_on_explicit_padding_double_tail :
    (emit { forcePadding := true } witnessDoubleTail).map doubleTailPad = some true ∧
    summary { forcePadding := true } witnessDoubleTail = some (some (32, 8, [(1, 8)])) ∧
    summary {} witnessDoubleTail = some (some (24, 8, [(1, 8)])) :=
  ⟨by decide, by decide, by decide⟩

/-- `--explicit-padding` on a wrapper-form union: Rust size 12, C size 8 -/
theorem C02_fails_on_explicit_padding_union_wrapper :
    (emit { forcePadding := true } witnessUnionWrapper).map padBeforeUnionBlob = some true ∧
    summary { forcePadding := true } witnessUnionWrapper = some (some (12, 4, [(0, 0), (1, 0), (2, 0)])) ∧
    summary {} witnessUnionWrapper = some (some (8, 4, [(0, 0), (1, 0), (2, 0)])) :=
  ⟨by decide, by decide, by decide⟩

/-- `--explicit-padding` on a wrapper-form union with a bit-field unit, where `comp_layout.size` is below
`self.latest_offset`: the subtraction is guarded by `>=` (/repo commit 8d11e5e5; the model follows it), so there is no
panic and the layout is C's. -/
theorem C02_tail_padding_no_underflow :
    summary { forcePadding := true } witnessTailUnderflow = some (some (8, 8, [(0, 0), (1, 0)])) ∧
    (emit {} witnessTailUnderflow).isSome = true ∧ Generated.LayoutConsts.tailPaddingGuardIsGe = true := by decide

/-- `#pragma pack(2)` undetected: `b` at 8 in Rust, at 2 in C -/
theorem C02_fails_on_unpacked_misaligned_member :
    (emit {} witnessMisaligned).map (unpackedMisalignedMember witnessMisaligned) = some true ∧
    summary {} witnessMisaligned = some (some (16, 8, [(0, 0), (1, 8)])) := by decide

/-- `#pragma pack(4)` with a member-level `aligned(16)`: C leaves a gap (b at 4, c at 8, size 16),
the emitted `repr(C, packed(4))` struct has none (b at 1, c at 4, size 12) -/
theorem C02_fails_on_packed_member_gap :
    (emit {} witnessPackedGap).map (packedGap witnessPackedGap) = some true ∧
    summary {} witnessPackedGap = some (some (12, 4, [(0, 0), (1, 1), (2, 4)])) := by decide

/-- a union of unnamed bit-fields ending in `:0` has no field in the IR, is considered zero-sized and
gets `_address: u8`: Rust size 1, C size 3 -/
theorem C02_fails_on_union_bitfields_dropped :
    (emit {} witnessUnionDropped).map (unionBitfieldsDropped witnessUnionDropped) = some true ∧
    summary {} witnessUnionDropped = some (some (1, 1, [])) := by decide

/-- a bit-field unit lands at byte 1, libclang has its bit-field at bit 32 (byte 4): size, alignment
and the offsets of plain members agree with C, the bit-field accessors touch the wrong bytes -/
theorem C02_fails_on_bitfield_unit_misplaced :
    (emit {} witnessUnitMisplaced).map (unitMisplaced witnessUnitMisplaced) = some true ∧
    ((emit {} witnessUnitMisplaced).bind reprC).map (fun l => (l.size, l.align, l.unitOffset 1)) = some (8, 4, some 1) := by decide

end BindgenModel.C02

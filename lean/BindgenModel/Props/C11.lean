import BindgenModel.Model.Determinism
import BindgenModel.Generated.Sites
import BindgenModel.Lemmas.InsertSort
/-!
# C11 — output is a pure function of inputs across processes, repeats and threads

About `Model/Determinism.lean`:

* every consumer class of a hash-container iteration is invariant under permutation of the yielded
  list (`consume_perm`), so a generation does not depend on the iteration order of any site:
  `C11_perm_invariant_partial`.  Its hypothesis is needed: a `find` site must have at most one
  matching element (`C11_find_order_dependent_witness` otherwise); the only such sites are the two
  `abi_overrides` lookups (`C11_findUnique_sites`).  `C11_perm_invariant`: programs without `find` sites;
* process-wide write-once cells whose initial value does not depend on the initialising generation's
  input (`InputIndependent`) carry nothing between generations, because a micro-step does what it
  would do alone whatever the cells hold (`stepGen_soloGen`): `C11_history_irrelevant`,
  `C11_interleaving_irrelevant`, `C11_schedule_progress`, with
  `C11_history_matters_if_init_depends_on_input` the witness for the hypothesis;
* the one kind of shared mutable state in the classification, a scratch file at a path that does not
  depend on the generation, is outside that hypothesis.  The files of `--clang-macro-fallback` were
  such until /repo 63f9f962 put the process id and `FALLBACK_TU_COUNTER` into their names (finding
  `macro_fallback_shared_scratch_files`): `C11_shared_scratch_sites` lists the four sites that create
  and delete them, `C11_scratch_file_sequential_ok` and `C11_scratch_file_interleaving_witness` say
  what a shared path does to histories and to interleavings;
* `C11_all_sites_classified`: every site of the regenerated inventory (`Generated/Sites.lean`:
  process-wide state, hash iterations) has a row in the committed classification.
-/
namespace BindgenModel.Determinism
open List

/-! ## `sort` and `BTreeSet`: the canonical listing of the content

The results are ascending and have the content of the input (the set: without duplicates).  An
ascending list is determined by its content: this is why these consumers do not see the iteration
order. -/

theorem ordInsert_eq_insertBy (a : Elem) (l : List Elem) : ordInsert a l = Post.insertBy id a l := by
  induction l with
  | nil => rfl
  | cons b l ih => simp only [ordInsert, Post.insertBy, ih, id]

theorem sortList_eq_stableSort (xs : List Elem) : sortList xs = Post.stableSort id xs := by
  have : ordInsert = Post.insertBy id := funext fun a => funext (ordInsert_eq_insertBy a)
  rw [sortList, this, Post.foldr_insertBy]

theorem C11_sortList_content (xs : List Elem) : (sortList xs).Perm xs := by
  rw [sortList_eq_stableSort]
  exact Post.stableSort_perm id xs

theorem C11_sortList_sorted (xs : List Elem) : (sortList xs).Pairwise (· ≤ ·) := by
  rw [sortList_eq_stableSort]
  exact Post.stableSort_sorted id xs

theorem sortList_perm {xs ys : List Elem} (h : xs.Perm ys) : sortList xs = sortList ys :=
  Perm.eq_of_pairwise (fun _ _ _ _ => Nat.le_antisymm) (C11_sortList_sorted xs) (C11_sortList_sorted ys)
    ((C11_sortList_content xs).trans (h.trans (C11_sortList_content ys).symm))

theorem mem_setInsert (a x : Elem) (l : List Elem) : x ∈ setInsert a l ↔ x = a ∨ x ∈ l := by
  fun_induction setInsert a l with
  | case1 => exact mem_cons
  | case2 => exact mem_cons
  | case3 => rw [mem_cons, ← or_assoc, or_self]
  | case4 b l _ _ ih => rw [mem_cons, ih, mem_cons, or_left_comm]

theorem C11_toOrderedSet_content (xs : List Elem) (x : Elem) : x ∈ toOrderedSet xs ↔ x ∈ xs := by
  induction xs with
  | nil => exact Iff.rfl
  | cons a xs ih => exact (mem_setInsert a x _).trans ((or_congr_right ih).trans mem_cons.symm)

theorem setInsert_strict (a : Elem) (l : List Elem) (h : l.Pairwise (· < ·)) :
    (setInsert a l).Pairwise (· < ·) := by
  fun_induction setInsert a l with
  | case1 => exact pairwise_singleton _ a
  | case2 b l hab =>
    exact h.cons fun x hx => (mem_cons.mp hx).elim (· ▸ hab) fun hx => Nat.lt_trans hab (rel_of_pairwise_cons h hx)
  | case3 => exact h
  | case4 b l hab hne ih =>
    refine (ih h.of_cons).cons fun x hx => ?_
    rcases (mem_setInsert a x l).mp hx with rfl | hx
    · exact Nat.lt_of_le_of_ne (Nat.le_of_not_lt hab) (Ne.symm hne)
    · exact rel_of_pairwise_cons h hx

theorem C11_toOrderedSet_strict (xs : List Elem) : (toOrderedSet xs).Pairwise (· < ·) := by
  induction xs with
  | nil => exact List.Pairwise.nil
  | cons a xs ih => exact setInsert_strict a _ ih

theorem C11_toOrderedSet_content_determines (xs ys : List Elem) (h : ∀ x, x ∈ xs ↔ x ∈ ys) :
    toOrderedSet xs = toOrderedSet ys := by
  have sx := C11_toOrderedSet_strict xs
  have sy := C11_toOrderedSet_strict ys
  have p : (toOrderedSet xs).Perm (toOrderedSet ys) :=
    (perm_ext_iff_of_nodup (sx.imp Nat.ne_of_lt) (sy.imp Nat.ne_of_lt)).mpr fun x => by
      rw [C11_toOrderedSet_content, C11_toOrderedSet_content]
      exact h x
  exact p.eq_of_pairwise (fun _ _ _ _ hab hba => absurd hab (Nat.lt_asymm hba)) sx sy

theorem toOrderedSet_perm {xs ys : List Elem} (h : xs.Perm ys) : toOrderedSet xs = toOrderedSet ys :=
  C11_toOrderedSet_content_determines xs ys fun _ => h.mem_iff

/-! ## consumers are permutation invariant -/

def AtMostOne (p : Elem → Bool) (xs : List Elem) : Prop :=
  ∀ a ∈ xs, ∀ b ∈ xs, p a = true → p b = true → a = b

theorem find?_perm_of_atMostOne {p : Elem → Bool} {xs ys : List Elem} (h : AtMostOne p xs)
    (hp : xs.Perm ys) : xs.find? p = ys.find? p := by
  cases hx : xs.find? p with
  | none => exact (find?_eq_none.mpr fun y hy => find?_eq_none.mp hx y (hp.mem_iff.mpr hy)).symm
  | some a =>
    have ha := mem_of_find?_eq_some hx
    cases hy : ys.find? p with
    | none => exact absurd (find?_some hx) (find?_eq_none.mp hy a (hp.mem_iff.mp ha))
    | some b => rw [h a ha b (hp.mem_iff.mpr (mem_of_find?_eq_some hy)) (find?_some hx) (find?_some hy)]

theorem consume_perm (c : ConsumerClass) (p : Elem → Bool) (f : Elem → List Elem) {xs ys : List Elem}
    (hu : c = .findUnique → AtMostOne p xs) (h : xs.Perm ys) :
    consume c p f xs = consume c p f ys := by
  cases c with
  | collectOrdered | insertAll | forEachIndependent =>
    exact congrArg Val.list (toOrderedSet_perm (h.flatMap_right f))
  | sortAfter => exact congrArg Val.list (sortList_perm (h.flatMap_right f))
  | anyAll => exact congrArg Val.flag h.any_eq
  | findUnique => exact congrArg Val.found (find?_perm_of_atMostOne (hu rfl) h)
  | _ => rfl

/-! ## generation: the iteration order of no site reaches the output -/

def IsOrder (π : Order) : Prop := ∀ s l, (π s l).Perm l

def StepOK {σ : Type} (s : Step σ) : Prop :=
  s.cls = .findUnique → ∀ st, AtMostOne s.p (s.content st)

theorem runSteps_canonical {σ : Type} (π : Order) (hπ : IsOrder π) (prog : List (Step σ))
    (hok : ∀ s ∈ prog, StepOK s) (st : σ) : runSteps π prog st = runSteps (fun _ l => l) prog st := by
  induction prog generalizing st with
  | nil => rfl
  | cons s rest ih =>
    have hs : s.run π st = s.run (fun _ l => l) st :=
      congrArg (s.update st)
        (consume_perm s.cls s.p s.f (fun hc => hok s (mem_cons_self ..) hc st) (hπ _ _).symm).symm
    rw [runSteps, hs]
    exact ih (fun t ht => hok t (mem_cons_of_mem _ ht)) _

theorem runSteps_order_irrelevant {σ : Type} (π π' : Order) (hπ : IsOrder π) (hπ' : IsOrder π')
    (prog : List (Step σ)) (hok : ∀ s ∈ prog, StepOK s) (st : σ) :
    runSteps π prog st = runSteps π' prog st :=
  (runSteps_canonical π hπ prog hok st).trans (runSteps_canonical π' hπ' prog hok st).symm

theorem C11_perm_invariant_partial {ι σ ω : Type} (prog : ι → List (Step σ)) (init : ι → σ)
    (out : σ → ω) (i : ι) (π π' : Order) (hπ : IsOrder π) (hπ' : IsOrder π')
    (hok : ∀ s ∈ prog i, StepOK s) :
    gen prog init out i π = gen prog init out i π' :=
  congrArg out (runSteps_order_irrelevant π π' hπ hπ' (prog i) hok (init i))

theorem C11_perm_invariant {ι σ ω : Type} (prog : ι → List (Step σ)) (init : ι → σ)
    (out : σ → ω) (i : ι) (π π' : Order) (hπ : IsOrder π) (hπ' : IsOrder π')
    (hnf : ∀ s ∈ prog i, s.cls ≠ .findUnique) :
    gen prog init out i π = gen prog init out i π' :=
  C11_perm_invariant_partial prog init out i π π' hπ hπ'
    (fun s hs hc => absurd hc (hnf s hs))

def witnessProg (p : Elem → Bool) : Unit → List (Step Val) := fun _ =>
  [{ site := 0, cls := .findUnique, content := fun _ => [1, 2], p := p, f := fun a => [a],
     update := fun _ v => v }]

/-- a `find` whose predicate two elements satisfy returns whichever the iteration yields first: two
`--override-abi` sets matching one name -/
theorem C11_find_order_dependent_witness :
    IsOrder (fun _ l => l) ∧ IsOrder (fun _ l => l.reverse) ∧
    gen (witnessProg (fun _ => true)) (fun _ => Val.unit) id () (fun _ l => l)
      ≠ gen (witnessProg (fun _ => true)) (fun _ => Val.unit) id () (fun _ l => l.reverse) := by
  refine ⟨fun _ _ => Perm.refl _, fun _ l => reverse_perm l, ?_⟩
  decide

example : ∀ s ∈ witnessProg (fun a => a == 2) (), StepOK s := by
  intro s hs _ _ a _ b _ pa pb
  rw [mem_singleton.mp hs] at pa pb
  exact (eq_of_beq pa).trans (eq_of_beq pb).symm

example : gen (witnessProg (fun a => a == 2)) (fun _ => Val.unit) id () (fun _ l => l)
    = gen (witnessProg (fun a => a == 2)) (fun _ => Val.unit) id () (fun _ l => l.reverse) := by decide

/-! ## process-wide write-once cells -/

def InputIndependent (S : Sys) : Prop := ∀ i j c, S.initVal i c = S.initVal j c

def CellsOK (S : Sys) (cells : List (Nat × Nat)) : Prop :=
  ∀ c v, cellGet cells c = some v → ∀ i, v = S.initVal i c

def GenOK (S : Sys) (g : GenSt) : Prop :=
  g.pc ≤ S.nsteps g.input ∧ g.loc = soloLoc S g.input g.pc

theorem cellsOK_nil (S : Sys) : CellsOK S [] := fun _ _ h => nomatch h

theorem getOrInit_fst (S : Sys) {cells : List (Nat × Nat)} (hc : CellsOK S cells) (i c : Nat) :
    (getOrInit S cells i c).1 = S.initVal i c := by
  unfold getOrInit
  cases h : cellGet cells c with
  | some v => exact hc c v h i
  | none => rfl

theorem getOrInit_cellsOK (S : Sys) (hI : InputIndependent S) {cells : List (Nat × Nat)}
    (hc : CellsOK S cells) (i c : Nat) : CellsOK S (getOrInit S cells i c).2 := by
  unfold getOrInit
  cases cellGet cells c with
  | some v => exact hc
  | none =>
    intro c' v' h' j
    unfold cellGet at h'
    split at h'
    next e =>
      cases e
      cases h'
      exact hI i j c
    · exact hc c' v' h' j

/-- input `i` after `n` micro-steps alone in a fresh process (it has finished after `S.nsteps i`) -/
def soloGen (S : Sys) (i n : Nat) : GenSt :=
  { input := i, pc := min (S.nsteps i) n, loc := soloLoc S i (min (S.nsteps i) n) }

theorem genOK_soloGen (S : Sys) (i n : Nat) : GenOK S (soloGen S i n) := ⟨Nat.min_le_left .., rfl⟩

theorem genOK_eq_soloGen {S : Sys} {g : GenSt} (h : GenOK S g) : g = soloGen S g.input g.pc := by
  obtain ⟨i, pc, loc⟩ := g
  obtain ⟨h1, h2⟩ := h
  simp only [soloGen, Nat.min_eq_right h1]
  exact congrArg _ h2

theorem freshGen_eq (S : Sys) (i : Nat) : freshGen S i = soloGen S i 0 := by
  simp only [freshGen, soloGen, Nat.min_zero, soloLoc]

theorem stepGen_cellsOK (S : Sys) (hI : InputIndependent S) {cells : List (Nat × Nat)} (hc : CellsOK S cells)
    (g : GenSt) : CellsOK S (stepGen S cells g).1 := by
  unfold stepGen
  split
  · exact getOrInit_cellsOK S hI hc _ _
  · exact hc

theorem stepGen_soloGen (S : Sys) {cells : List (Nat × Nat)} (hc : CellsOK S cells) (i n : Nat) :
    (stepGen S cells (soloGen S i n)).2 = soloGen S i (n + 1) := by
  unfold stepGen
  rcases Nat.lt_or_ge n (S.nsteps i) with h | h
  · simp only [soloGen, Nat.min_eq_right (Nat.le_of_lt h), Nat.min_eq_right (Nat.succ_le_of_lt h), h, if_true,
      getOrInit_fst S hc i, soloLoc]
  · simp only [soloGen, Nat.min_eq_left h, Nat.min_eq_left (Nat.le_succ_of_le h), Nat.lt_irrefl, if_false]

theorem setNth_eq_set {α : Type} (l : List α) (n : Nat) (a : α) : setNth l n a = l.set n a := by
  induction l generalizing n with
  | nil => rfl
  | cons b l ih => cases n <;> simp [setNth, ih]

theorem map_set_of_eq {α β : Type} (f : α → β) {l : List α} {n : Nat} {a b : α}
    (hl : l[n]? = some b) (hf : f a = f b) : (l.set n a).map f = l.map f := by
  obtain ⟨hn, rfl⟩ := List.getElem?_eq_some_iff.mp hl
  rw [map_set, hf, ← getElem_map f, set_getElem_self]
  rwa [length_map]

theorem fire_of_none (S : Sys) {P : Proc} {k : Nat} (hk : P.gens[k]? = none) : fire S P k = P := by
  simp only [fire, hk]

theorem fire_of_some (S : Sys) {P : Proc} {k : Nat} {g : GenSt} (hk : P.gens[k]? = some g) :
    fire S P k = { cells := (stepGen S P.cells g).1, gens := P.gens.set k (stepGen S P.cells g).2 } := by
  simp only [fire, hk, setNth_eq_set]

theorem fire_getElem? (S : Sys) {P : Proc} {k : Nat} {g : GenSt} (hk : P.gens[k]? = some g) (j : Nat) :
    (fire S P j).gens[k]? = some (if j = k then (stepGen S P.cells g).2 else g) := by
  by_cases e : j = k
  · subst e
    rw [fire_of_some S hk, if_pos rfl]
    exact getElem?_set_self (List.getElem?_eq_some_iff.mp hk).1
  · rw [if_neg e]
    cases hj : P.gens[j]? with
    | none => rw [fire_of_none S hj, hk]
    | some gj => rw [fire_of_some S hj]; exact (getElem?_set_ne e).trans hk

theorem fire_cellsOK (S : Sys) (hI : InputIndependent S) {P : Proc} (h : CellsOK S P.cells) (k : Nat) :
    CellsOK S (fire S P k).cells := by
  cases hk : P.gens[k]? with
  | none => rw [fire_of_none S hk]; exact h
  | some g => rw [fire_of_some S hk]; exact stepGen_cellsOK S hI h g

theorem runSched_getElem? (S : Sys) (hI : InputIndependent S) (sched : List Nat) {P : Proc}
    (hc : CellsOK S P.cells) {k i n : Nat} (hk : P.gens[k]? = some (soloGen S i n)) :
    (runSched S sched P).gens[k]? = some (soloGen S i (n + sched.count k)) := by
  induction sched generalizing P n with
  | nil => exact hk
  | cons j js ih =>
    have hk' := fire_getElem? S hk j
    rw [stepGen_soloGen S hc] at hk'
    by_cases e : j = k
    · rw [if_pos e] at hk'
      rw [runSched, ih (fire_cellsOK S hI hc j) hk', e, count_cons_self, Nat.add_assoc, Nat.add_comm 1]
    · rw [if_neg e] at hk'
      rw [runSched, ih (fire_cellsOK S hI hc j) hk', count_cons_of_ne e]

def ProcOK (S : Sys) (P : Proc) : Prop := CellsOK S P.cells ∧ ∀ g ∈ P.gens, GenOK S g

theorem fire_ok (S : Sys) (hI : InputIndependent S) {P : Proc} (h : ProcOK S P) (k : Nat) :
    ProcOK S (fire S P k) ∧ (fire S P k).gens.map (·.input) = P.gens.map (·.input) := by
  cases hk : P.gens[k]? with
  | none => rw [fire_of_none S hk]; exact ⟨h, rfl⟩
  | some g =>
    rw [fire_of_some S hk, genOK_eq_soloGen (h.2 g (mem_of_getElem? hk)), stepGen_soloGen S h.1]
    refine ⟨⟨stepGen_cellsOK S hI h.1 _, fun g' hg' => ?_⟩, map_set_of_eq _ hk rfl⟩
    rcases mem_or_eq_of_mem_set hg' with e | e
    · exact h.2 g' e
    · rw [e]; exact genOK_soloGen ..

theorem runSched_ok (S : Sys) (hI : InputIndependent S) (sched : List Nat) {P : Proc}
    (h : ProcOK S P) :
    ProcOK S (runSched S sched P) ∧ (runSched S sched P).gens.map (·.input) = P.gens.map (·.input) := by
  induction sched generalizing P with
  | nil => exact ⟨h, rfl⟩
  | cons k ks ih =>
    have f := fire_ok S hI h k
    have r := ih f.1
    exact ⟨r.1, r.2.trans f.2⟩

theorem procOK_fresh (S : Sys) (inputs : List Nat) :
    ProcOK S { cells := [], gens := inputs.map (freshGen S) } := by
  refine ⟨cellsOK_nil S, ?_⟩
  intro g hg
  obtain ⟨i, _, rfl⟩ := mem_map.mp hg
  exact ⟨Nat.zero_le _, rfl⟩

/-- Generations started in a fresh process take micro-steps in any order `sched` (threads sharing only
the write-once cells): every one that has finished holds the output of the same input run alone in a
fresh process. -/
theorem C11_interleaving_irrelevant (S : Sys) (hI : InputIndependent S) (inputs sched : List Nat) :
    let P := runSched S sched { cells := [], gens := inputs.map (freshGen S) }
    P.gens.map (·.input) = inputs ∧
    ∀ g ∈ P.gens, g.pc = S.nsteps g.input → S.out g.loc = soloOut S g.input := by
  have r := runSched_ok S hI sched (procOK_fresh S inputs)
  refine ⟨r.2.trans ?_, fun g hg hfin => ?_⟩
  · simp [freshGen, Function.comp_def]
  · rw [soloOut, ← hfin, (r.1.2 g hg).2]

/-- So a schedule that names each generation at least `nsteps` times finishes all of them (by
`C11_interleaving_irrelevant`, with their solo outputs). -/
theorem C11_schedule_progress (S : Sys) (hI : InputIndependent S) (sched : List Nat) (P : Proc)
    (h : ProcOK S P) (k : Nat) (g : GenSt) (hk : P.gens[k]? = some g) :
    ∃ g', (runSched S sched P).gens[k]? = some g' ∧ g'.input = g.input ∧
      g'.pc = min (S.nsteps g.input) (g.pc + sched.count k) :=
  ⟨_, runSched_getElem? S hI sched h.1 (hk.trans (congrArg some (genOK_eq_soloGen (h.2 g (mem_of_getElem? hk))))),
    rfl, rfl⟩

theorem runToEnd_soloGen (S : Sys) (hI : InputIndependent S) (fuel : Nat) {cells : List (Nat × Nat)}
    (hc : CellsOK S cells) (i n : Nat) :
    CellsOK S (runToEnd S fuel cells (soloGen S i n)).1 ∧
      (runToEnd S fuel cells (soloGen S i n)).2 = soloGen S i (n + fuel) := by
  induction fuel generalizing cells n with
  | zero => exact ⟨hc, rfl⟩
  | succ f ih =>
    rw [runToEnd, stepGen_soloGen S hc, Nat.add_comm f, ← Nat.add_assoc]
    exact ih (stepGen_cellsOK S hI hc _) _

theorem runHistory_eq (S : Sys) (hI : InputIndependent S) (hist : List Nat) {cells : List (Nat × Nat)}
    (hc : CellsOK S cells) : runHistory S hist cells = hist.map (soloOut S) := by
  induction hist generalizing cells with
  | nil => rfl
  | cons i rest ih =>
    have r := runToEnd_soloGen S hI (S.nsteps i) hc i 0
    rw [runHistory, freshGen_eq, ih r.1, r.2, map_cons, soloOut, soloGen, Nat.zero_add, Nat.min_self]

/-- Whatever ran before it in the same process, the k-th generation of a history gives the output of
the same input run first in a fresh process. -/
theorem C11_history_irrelevant (S : Sys) (hI : InputIndependent S) (hist : List Nat) (k i : Nat)
    (hk : hist[k]? = some i) :
    (runHistory S hist [])[k]? = (runHistory S [i] [])[0]? := by
  rw [runHistory_eq S hI hist (cellsOK_nil S), runHistory_eq S hI [i] (cellsOK_nil S), getElem?_map, hk]
  rfl

theorem C11_repeat_irrelevant (S : Sys) (hI : InputIndependent S) (i n : Nat) :
    runHistory S (replicate n i) [] = replicate n (soloOut S i) := by
  rw [runHistory_eq S hI _ (cellsOK_nil S)]
  exact map_replicate

theorem C11_history_matters_if_init_depends_on_input :
    ¬ InputIndependent leakySys ∧
    (runHistory leakySys [1, 2] [])[1]? ≠ (runHistory leakySys [2] [])[0]? :=
  ⟨fun h => absurd (h 1 2 0) (by decide), by decide⟩

example : InputIndependent sampleSys := fun _ _ _ => rfl
example : (runSched sampleSys [1, 0, 1, 0, 1, 0] { cells := [], gens := [3, 4].map (freshGen sampleSys) }).gens.map
    (fun g => sampleSys.out g.loc) = [soloOut sampleSys 3, soloOut sampleSys 4] := by decide +kernel

/-! ## the inventory is classified -/

/-- A new `static`, `thread_local!`, `OnceLock`, environment read or iteration over a hash container in
/repo's working tree (or an edit of an existing one's statement) has no row and breaks this. -/
theorem C11_all_sites_classified :
    (Generated.hashIterSitesHashes.all (fun h => (iterClassOf h).isSome) &&
     Generated.stateSitesHashes.all (fun h => (stateClassOf h).isSome)) = true := by decide +kernel

theorem C11_findUnique_sites :
    (iterClasses.filter (fun r => r.2.1 == ConsumerClass.findUnique)).map (·.1)
      = [931047457799873773, 353906315918619630] := by decide +kernel

theorem C11_shared_scratch_sites :
    (stateClasses.filter (fun r => r.2.1 == StateClass.sharedScratchFile)).map (·.1)
      = [865492049953808878, 1029920217957333306, 707024884831842029, 937651750378931466] := by decide +kernel

/-- run one after the other, generations sharing the scratch file still read their own content -/
theorem C11_scratch_file_sequential_ok (hist : List Nat) (file : Option Nat) :
    fRunHistory hist file = hist.map (fun i => some (some i)) := by
  induction hist generalizing file with
  | nil => rfl
  | cons i rest ih =>
    rw [fRunHistory, ih]
    rfl

/-- interleaved, a generation reads the other generation's file (first schedule) or finds it deleted
(second schedule: the other one finished in between) -/
theorem C11_scratch_file_interleaving_witness :
    ((fRunSched [0, 1, 0] (none, [fFresh 7, fFresh 9])).2.map (·.seen))[0]? = some (some (some 9)) ∧
    ((fRunSched [0, 1, 1, 1, 0] (none, [fFresh 7, fFresh 9])).2.map (·.seen))[0]? = some (some none) := by
  decide +kernel

/-- The ten classes are all the constructors of `StateClass`, so this holds of any table.  An
environment-mutating call (`set_var`, `remove_var`, `set_current_dir`) would be a new `env` site of the
inventory, without a row: it is `C11_all_sites_classified` that fails then. -/
theorem C11_state_classes_closed :
    stateClasses.all (fun r => r.2.1 == .immutableConst || r.2.1 == .writeOnceConst ||
      r.2.1 == .writeOnceEnv || r.2.1 == .envInput || r.2.1 == .perGenerationCell ||
      r.2.1 == .hookOnly || r.2.1 == .buildScript || r.2.1 == .declaredOutput ||
      r.2.1 == .sharedScratchFile || r.2.1 == .scratchNameCounter) = true := by decide +kernel

end BindgenModel.Determinism

import BindgenModel.Props.C07
import BindgenModel.Lemmas.Analyses
/-!
# C07 — the analyses of bindgen as lawful instances

Every analysis in normal form (`Model/Analyses.lean`) satisfies `LawfulCore`, and `Lawful` as soon as the
decidable condition `readsCovered` holds for the concrete graph: every node a rule reads has a dependency
edge back to the reader.  The correspondence run evaluates that condition on every dumped graph and
reports the nodes where it fails (`uncovered`: members behind names like `uint64_t`, which `Trace` skips).
On such a graph the loop still terminates, its result is still below every stable state, and every node
outside `uncovered` is stable in it (`run_terminates`, `C07_instance_least`, `C07_instance_stable_at`).
`*_considered` are the table obligations that make `readsCovered` hold on ordinary graphs: each edge kind
through which a rule reads a child is admitted by the analysis' own `consider_edge`, as regenerated
from the source.
-/
namespace BindgenModel.Analyses
open BindgenModel.Worklist BindgenModel.Generated

theorem instance_lawfulCore (I : Instance) : LawfulCore I.framework where
  le_refl := fun a => (I.le_iff a a).mpr (Fin.le_refl a)
  le_trans := fun a b c h1 h2 => (I.le_iff a c).mpr (Fin.le_trans ((I.le_iff a b).mp h1) ((I.le_iff b c).mp h2))
  le_antisymm := fun a b h1 h2 => Fin.le_antisymm ((I.le_iff a b).mp h1) ((I.le_iff b a).mp h2)
  join_ub_l := fun a b => (I.le_iff a _).mpr (le_vmax_left a b)
  join_ub_r := fun a b => (I.le_iff b _).mpr (le_vmax_right a b)
  join_lub := fun a b c h1 h2 => (I.le_iff _ c).mpr ((vmax_le_iff a b c).mpr ⟨(I.le_iff a c).mp h1, (I.le_iff b c).mp h2⟩)
  rank_strict := fun a b h hne => Nat.lt_of_le_of_ne ((I.le_iff a b).mp h) fun e => hne (Fin.ext e)
  rank_le := fun a => Nat.le_of_lt_succ a.isLt
  reads_only := by
    intro s s' n h
    rw [I.rule_eq, I.rule_eq]
    exact eval_reads_only _ s s' h
  mono := by
    intro s s' n h
    rw [I.le_iff, I.rule_eq, I.rule_eq]
    exact eval_mono _ s s' fun m _ => (I.le_iff _ _).mp (h m)

theorem instance_lawful (I : Instance) (hcov : I.readsCovered = true) : Lawful I.framework :=
  { instance_lawfulCore I with
    reads_deps := fun n m hm hn => I.reads_covered hn (I.not_mem_uncovered hcov n) m hm }

theorem C07_instance_stable_at (I : Instance) (hclosed : I.depsClosed = true) (hwl : ∀ n ∈ I.initWl, n ∈ I.nodes)
    (n : Nat) (hn : n ∈ I.initWl) (hcov : n ∉ I.uncovered) :
    Stable I.framework (analyze I.framework I.initWl) n :=
  C07_stable_at I.framework (instance_lawfulCore I) (I.deps_closed hclosed) I.initWl hwl n hn
    (I.reads_covered (hwl n hn) hcov)

theorem C07_instance_least (I : Instance) (hclosed : I.depsClosed = true) (hwl : ∀ n ∈ I.initWl, n ∈ I.nodes)
    (p : Nat → V) (hp : ∀ n ∈ I.nodes, Stable I.framework p n) (n : Nat) : analyze I.framework I.initWl n ≤ p n :=
  (I.le_iff _ _).mp (run_le I.framework (instance_lawfulCore I) (· ∈ I.nodes) (I.deps_closed hclosed) p hp _ _ I.initWl
    hwl (fun m => I.bot_le (p m)) n)

theorem C07_instance_stable (I : Instance) (hcov : I.readsCovered = true)
    (hclosed : I.depsClosed = true) (hwl : ∀ n ∈ I.initWl, n ∈ I.nodes)
    (hall : ∀ n ∈ I.nodes, n ∈ I.initWl) :
    ∀ n ∈ I.nodes, Stable I.framework (analyze I.framework I.initWl) n :=
  fun n hn => C07_instance_stable_at I hclosed hwl n (hall n hn) (I.not_mem_uncovered hcov n)

theorem C07_instance_schedule_irrelevant (I : Instance) (hcov : I.readsCovered = true)
    (hclosed : I.depsClosed = true) (wl₁ wl₂ : List Nat)
    (h₁ : ∀ n ∈ wl₁, n ∈ I.nodes) (h₂ : ∀ n ∈ wl₂, n ∈ I.nodes)
    (a₁ : ∀ n ∈ I.nodes, n ∈ wl₁) (a₂ : ∀ n ∈ I.nodes, n ∈ wl₂) :
    analyze I.framework wl₁ = analyze I.framework wl₂ :=
  C07_schedule_irrelevant I.framework (instance_lawful I hcov) I.bot_le (I.deps_closed hclosed) wl₁ wl₂ h₁ h₂ a₁ a₂

/-! `Trace` reports: alias / typeref / pointer / array inner types as `TypeReference`; bases as
`BaseMember`; data members and bit-field members as `Field`; template definition as
`TemplateDeclaration`; template arguments as `TemplateArgument`. -/

/-- has_vtable reads: alias/typeref/reference inner, bases, template definition -/
theorem hasVtable_considered :
    considerEdge .hasVtable .typeReference = true ∧ considerEdge .hasVtable .baseMember = true ∧
    considerEdge .hasVtable .templateDeclaration = true := by decide

/-- has_destructor reads: alias/typeref inner, bases, data members, template definition and arguments -/
theorem hasDestructor_considered :
    considerEdge .hasDestructor .typeReference = true ∧ considerEdge .hasDestructor .baseMember = true ∧
    considerEdge .hasDestructor .field = true ∧ considerEdge .hasDestructor .templateDeclaration = true ∧
    considerEdge .hasDestructor .templateArgument = true := by decide

/-- has_float reads: array/vector/alias inner, bases, fields (incl. bit-fields), template definition and arguments -/
theorem hasFloat_considered :
    considerEdge .hasFloat .typeReference = true ∧ considerEdge .hasFloat .baseMember = true ∧
    considerEdge .hasFloat .field = true ∧ considerEdge .hasFloat .templateDeclaration = true ∧
    considerEdge .hasFloat .templateArgument = true := by decide

theorem hasTypeParamInArray_considered :
    considerEdge .hasTypeParamInArray .typeReference = true ∧
    considerEdge .hasTypeParamInArray .baseMember = true ∧
    considerEdge .hasTypeParamInArray .field = true ∧
    considerEdge .hasTypeParamInArray .templateDeclaration = true ∧
    considerEdge .hasTypeParamInArray .templateArgument = true := by decide

/-- sizedness reads: alias/typeref inner, template definition, bases -/
theorem sizedness_considered :
    considerEdge .sizedness .typeReference = true ∧ considerEdge .sizedness .templateDeclaration = true ∧
    considerEdge .sizedness .baseMember = true := by decide

/-- the derive analyses join over the traced edges admitted by the per-trait predicates; each such
edge kind is also admitted by `consider_edge_default`, which builds the dependencies; arrays and
vectors read their element type (a `TypeReference` edge) -/
theorem derive_considered :
    (∀ t k, deriveEdgeComp t k = true → considerEdge .deriveDefault k = true) ∧
    (∀ t k, deriveEdgeTyperef t k = true → considerEdge .deriveDefault k = true) ∧
    (∀ t k, deriveEdgeTmplInst t k = true → considerEdge .deriveDefault k = true) ∧
    considerEdge .deriveDefault .typeReference = true := by
  refine ⟨?_, ?_, ?_, by decide⟩ <;> intro t k <;> cases t <;> cases k <;> decide

/-- entries of the regenerated derive-rule tables that bindgen's documentation states -/
theorem derive_trait_tables :
    canDeriveUnion .copy = true ∧ canDeriveUnion .debug = false ∧ canDeriveUnion .default = false ∧
    canDeriveUnion .hash = false ∧ canDeriveUnion .partialEqOrPartialOrd = false ∧
    canDeriveCompoundWithDestructor .copy = false ∧ canDeriveCompoundWithVtable .default = false ∧
    canDeriveLargeArray .default = false ∧ canDeriveLargeArray .copy = true ∧
    canDeriveIncompleteArray .copy = false ∧ canDeriveIncompleteArray .hash = false ∧
    canDeriveIncompleteArray .partialEqOrPartialOrd = false ∧
    rustDeriveInArrayLimit = 32 ∧ rustDeriveFunptrLimit = 12 := by decide

/-- class `D : B`, `B` polymorphic, alias `A = D` -/
def demoIR : IR.IR :=
  { items := #[
      {},
      { id := 1, kind := .type, allowlisted := true, tk := .comp, ownVirtual := true },
      { id := 2, kind := .type, allowlisted := true, tk := .comp, bases := [(1, false)],
        edges := [(1, .baseMember)] },
      { id := 3, kind := .type, allowlisted := true, tk := .alias, inner := some 2,
        edges := [(2, .typeReference)] }] }

example : (hasVtableInstance demoIR).readsCovered = true ∧ (hasVtableInstance demoIR).depsClosed = true := by
  decide
example : ((hasVtableInstance demoIR).solve 4).toList = [0, 1, 2, 2] := by decide

end BindgenModel.Analyses

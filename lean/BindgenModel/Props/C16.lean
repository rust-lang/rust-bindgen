import BindgenModel.Model.CDecl
import BindgenModel.Model.CDeclVariadic
import BindgenModel.Lemmas.CDecl
/-! # C16 — static-function wrappers compile and behave like the wrapped functions

Model: `Model/CDecl.lean` (`serP` = `impl CSerialize for Type`, `renderWrapper` = `impl CSerialize
for Function`, `codegenFn` = the static-function part of `Function::codegen`) over the generated
table `Generated/SerializeArms.lean`.

The property, for every static function `f` that gets a binding:
  (1) the wrapper file contains exactly one definition named `f.name ++ suffix`, the binding links to
      that name, the definition forwards all arguments in order and returns the result iff non-void;
  (2) every parameter declaration `serP t [name]` (and the return type), read by the C declarator
      grammar, declares `name` with the type the header gave it;
  (3) variadic static functions get no binding.

Proved: (1) `C16_wrapper_shape`, `C16_one_definition_per_wrapped_function`,
`C16_link_matches_wrapper_partial` (if canonical name = name), `C16_static_wrapped_partial` (if symbol
name = Rust name); (2) `C16_decl_roundtrip_partial` / `C16_ret_roundtrip_partial` for both forms of
the `Array` arm, where `defect` finds nothing; (3) `C16_variadic_gets_no_binding`.
Excluded, each with a witness: the regions `arrayUnderPtr`, `arrayElem`, `fnRet`, `constRefPtr`,
`fnVariadic` of `defect` (`C16_fails_on_…`; none for `fnNoDeclarator` and `fnConst`; for `unsupported`
see `C16_table_int128_unsupported`) and the name hypotheses of (1) (`C16_link_fails_on_renamed`,
`C16_fails_on_mangled_static`, `C16_fails_on_keyword_name`).

`wrap_as_variadic` (`Model/CDeclVariadic.lean`), for any parameter list: argument k of the call is
parameter k, with `ap` at the index of the pruned `va_list` (`C16_va_forwarded_positions`,
`C16_va_forwarded_in_order`, `C16_va_forwarded_named`); the wrapper's own parameters are the original
ones minus the `va_list`, in order (`C16_va_params_pruned`); `va_start` names the last of them
(`C16_va_start_names_last`); the code panics exactly when none remains or the index is past them
(`C16_va_panics_iff`), which `wrap_as_variadic_fn` never lets happen (`C16_va_codegen_guards_unwrap`);
without a callback answer nothing changes (`C16_va_none_unchanged`,
`C16_va_codegen_without_callback_unchanged`).  Excluded with witnesses: a remaining parameter called
`ap` / `ret` (`C16_va_fails_on_name_clash`), no `<stdarg.h>` (`C16_va_fails_without_stdarg`). -/
namespace BindgenModel.CDecl
open BindgenModel.Generated.SerializeArms

/-! ## (2) declarations round-trip through the C declarator grammar -/

theorem roundTrip_name (a : Bool) (t : CType) (n : Option Name) (h : defect a (ctxOfName n) t = none) :
    parseDecl (toks (serP a t (nameStack n))) = some (den t, n) := by
  have := (roundTrip a t).param n h [] _ .nil (Nat.le_refl _)
  rw [List.append_nil] at this
  simp [parseDecl, this]

/-- (2) for a parameter: what `CSerialize for Type` writes for `t` with `name` on the stack declares
    `name` with the header's type, for either form of the `Array` arm (`a`). -/
theorem C16_decl_roundtrip_partial (a : Bool) (t : CType) (name : Name)
    (h : defect a .direct t = none) :
    parseDecl (toks (serP a t [[pId name]])) = some (den t, some name) :=
  roundTrip_name a t (some name) h

/-- The return type (written with an empty stack). -/
theorem C16_ret_roundtrip_partial (a : Bool) (r : CType) (h : retDefect a r = none) :
    parseDecl (toks (serP a r [])) = some (den r, none) :=
  roundTrip_name a r none (ite_some_eq_none.mp h).2

/-- With the form of the `Array` arm that the generated table records. -/
theorem C16_decl_roundtrip_now_partial (t : CType) (name : Name)
    (h : defect arrayInDeclarator .direct t = none) :
    parseDecl (toks (serP arrayInDeclarator t [[pId name]])) = some (den t, some name) :=
  C16_decl_roundtrip_partial _ t name h

theorem C16_params_roundtrip_partial (a : Bool) (ps : Params) (h : defectPs a ps = none) :
    ParsesBack a ps :=
  parsesBack a ps h

mutual
theorem C16_no_defect_supported (a : Bool) : ∀ (ctx : Ctx) (t : CType), defect a ctx t = none → supported t = true
  | _, .base _ b, h => by
    cases hb : (baseText b).isSome
    · simp [defect, hb] at h
    · simpa [supported] using hb
  | _, .ptr _ t, h => by simpa [supported] using C16_no_defect_supported a .ptr t (by simpa [defect] using h)
  | ctx, .array t n, h => by
    cases a
    · simpa [supported] using C16_no_defect_supported false ctx t (defect_array_false_none.mp h).2.2
    · simpa [supported] using C16_no_defect_supported true ctx.afterArr t (by simpa [defect] using h)
  | ctx, .func c v r ps, h => by
    obtain ⟨_, _, _, _, _, hr, hps⟩ := defect_func_none.mp h
    simp [supported, C16_no_defect_supported a .empty r hr, C16_no_defect_supportedPs a ps hps]
  | ctx, .tref c t, h => by
    simpa [supported] using C16_no_defect_supported a ctx t (defect_tref_none.mp h).2
  | _, .other, h => by simp [defect] at h
theorem C16_no_defect_supportedPs (a : Bool) : ∀ (ps : Params), defectPs a ps = none → supportedPs ps = true
  | .nil, _ => rfl
  | .cons n t r, h => by
    obtain ⟨ht, hr⟩ := defectPs_cons_none.mp h
    simp [supportedPs, C16_no_defect_supported a _ t ht, C16_no_defect_supportedPs a r hr]
end

def wInt : CType := .base false (.int .Int)
def nP : Name := ['p']
def nA : Name := ['a']
def nF : Name := ['f']
def nQ : Name := ['q']

/-- `int (*p)[3]` -/
def wPtrToArray : CType := .ptr false (.array wInt 3)

/-- DESIGN §7 row 5: with the suffix-after form of the Array arm `int (*p)[3]` is written `int *p [3]`,
    which declares an array of 3 pointers. -/
theorem C16_fails_on_ptr_to_array :
    defect false .direct wPtrToArray = some .arrayUnderPtr ∧
    textOf (serP false wPtrToArray [[pId nP]]) = ['i', 'n', 't', ' ', '*', 'p', ' ', '[', '3', ']'] ∧
    parseDecl (toks (serP false wPtrToArray [[pId nP]])) = some (.array (.ptr false wInt) 3, some nP) ∧
    CType.array (.ptr false wInt) 3 ≠ den wPtrToArray :=
  ⟨by decide, by decide, by rfl, nofun⟩

/-- the same declaration with the in-declarator form of the Array arm (fixes/C16-ptr-to-array.diff) -/
theorem C16_ptr_to_array_ok_in_declarator_form :
    textOf (serP true wPtrToArray [[pId nP]]) = ['i', 'n', 't', ' ', '(', '*', 'p', ')', ' ', '[', '3', ']'] ∧
    parseDecl (toks (serP true wPtrToArray [[pId nP]])) = some (den wPtrToArray, some nP) :=
  ⟨by decide, C16_decl_roundtrip_partial true wPtrToArray nP (by decide)⟩

/-- `int a[2][3]` is written `int a [3] [2]` -/
theorem C16_fails_on_array_of_array :
    defect false .direct (.array (.array wInt 3) 2) = some .arrayElem ∧
    parseDecl (toks (serP false (.array (.array wInt 3) 2) [[pId nA]])) = some (.array (.array wInt 2) 3, some nA) ∧
    CType.array (.array wInt 2) 3 ≠ den (.array (.array wInt 3) 2) :=
  ⟨by decide, by rfl, nofun⟩

/-- `int (*(*f)(void))(int)` (pointer to function returning pointer to function) is written
    `int (*) (int) (*f) (void)`, which is not a declaration -/
theorem C16_fails_on_fn_returning_fnptr :
    let t : CType := .ptr false (.func false false (.ptr false (.func false false wInt (.cons none wInt .nil))) .nil)
    defect false .direct t = some .fnRet ∧ defect true .direct t = some .fnRet ∧
    parseDecl (toks (serP false t [[pId nF]])) = none :=
  ⟨by decide, by decide, by rfl⟩

/-- a function's own return type of that shape: `int (*) (int) name(…)` -/
theorem C16_fails_on_returning_fnptr :
    retDefect false (.ptr false (.func false false wInt (.cons none wInt .nil))) = some .fnRet := by decide

/-- `int *const q` arrives as a const `ResolvedTypeRef` to a const pointer and is written
    `const int *const q`: the const moves to the pointee -/
theorem C16_fails_on_const_ptr_param :
    let t : CType := .tref true (.ptr true wInt)
    defect false .direct t = some .constRefPtr ∧
    parseDecl (toks (serP false t [[pId nQ]])) = some (.ptr true (.base true (.int .Int)), some nQ) ∧
    CType.ptr true (.base true (.int .Int)) ≠ CType.ptr true wInt :=
  ⟨by decide, by rfl, nofun⟩

/-- `int (*g)(int, ...)`: the `...` is not written -/
theorem C16_fails_on_variadic_fnptr :
    let t : CType := .ptr false (.func false true wInt (.cons none wInt .nil))
    defect false .direct t = some .fnVariadic ∧
    parseDecl (toks (serP false t [[pId nF]])) = some (.ptr false (.func false false wInt (.cons none wInt .nil)), some nF) :=
  ⟨by decide, by rfl⟩

/-- `const char *const *a[4]`, `int (*f)(struct S *x, int [2])` -/
example : defect false .direct (.array (.ptr false (.ptr true (.base true (.int .Char)))) 4) = none := by decide
example : defect false .direct
    (.ptr false (.func false false (.ptr false wInt)
      (.cons (some ['x']) (.ptr false (.base false (.struct ['S']))) (.cons none (.array wInt 2) .nil)))) = none := by decide
example : defect true .direct (.ptr false (.array (.array (.ptr false (.func false false wInt .nil)) 3) 2)) = none := by decide

/-! ## (1) shape of a wrapper and of the wrapper file -/

def paramNames : Params → List (Option Name)
  | .nil => []
  | .cons n _ r => n :: paramNames r

theorem argNames_length (ps : Params) (k : Nat) : (argNames ps k).length = (paramTypes ps).length := by
  fun_induction argNames ps k <;> simp_all [paramTypes]

theorem argNames_named (ps : Params) (k i : Nat) (n : Name) (h : (paramNames ps)[i]? = some (some n)) :
    (argNames ps k)[i]? = some n := by
  fun_induction argNames ps k generalizing i <;> cases i <;> simp_all [paramNames]

theorem map_fst_zip_argNames (ps : Params) (k : Nat) : ((argNames ps k).zip (paramTypes ps)).map (·.1) = argNames ps k :=
  List.map_fst_zip (Nat.le_of_eq (argNames_length ps k))
theorem map_snd_zip_argNames (ps : Params) (k : Nat) : ((argNames ps k).zip (paramTypes ps)).map (·.2) = paramTypes ps :=
  List.map_snd_zip (Nat.le_of_eq (argNames_length ps k).symm)

/-- (1) for one wrapper: its name, its callee, the parameter types in order, the declared names forwarded
    in order (given names kept), `return` iff the return type is not void. -/
theorem C16_wrapper_shape (suffix : Name) (f : Fn) :
    (wrapperDef suffix f).defName = f.name ++ suffix ∧
    (wrapperDef suffix f).callee = f.name ∧
    (wrapperDef suffix f).forwarded = (wrapperDef suffix f).params.map (·.1) ∧
    (wrapperDef suffix f).params.map (·.2) = paramTypes f.params ∧
    (∀ (i : Nat) (n : Name), (paramNames f.params)[i]? = some (some n) → (wrapperDef suffix f).forwarded[i]? = some n) ∧
    (wrapperDef suffix f).returns = !isVoid f.ret :=
  ⟨rfl, rfl, (map_fst_zip_argNames f.params 0).symm, map_snd_zip_argNames f.params 0,
    fun i n h => argNames_named f.params 0 i n h, rfl⟩

/-- `renderWrapper` writes each parameter `(n, t)` of a wrapper as `serP t [[pId n]]`: this is
    `C16_decl_roundtrip_partial` at the wrapper's parameters, and the membership is not used. -/
theorem C16_wrapper_params_declared_partial (a : Bool) (suffix : Name) (f : Fn) (n : Name) (t : CType)
    (_hm : (n, t) ∈ (wrapperDef suffix f).params) (hd : defect a .direct t = none) :
    parseDecl (toks (serP a t [[pId n]])) = some (den t, some n) :=
  C16_decl_roundtrip_partial a t n hd

/-- the functions of a header set that end up on `items_to_serialize` -/
def wrappedFns (wrap : Bool) (suffix : Name) (fs : List (FnInfo × Fn)) : List (FnInfo × Fn) :=
  fs.filter fun p => match codegenFn wrap suffix p.1 with
    | some b => b.wrapped
    | none => false

/-- the definitions of the wrapper file, in order -/
def fileDefs (wrap : Bool) (suffix : Name) (fs : List (FnInfo × Fn)) : List WrapperDef :=
  (wrappedFns wrap suffix fs).map fun p => wrapperDef suffix p.2

theorem C16_one_definition_per_wrapped_function (wrap : Bool) (suffix : Name) (fs : List (FnInfo × Fn)) :
    (fileDefs wrap suffix fs).map (·.defName) = (wrappedFns wrap suffix fs).map (fun p => p.2.name ++ suffix) := by
  simp [fileDefs, wrapperDef, List.map_map, Function.comp_def]

theorem C16_definitions_distinct (wrap : Bool) (suffix : Name) (fs : List (FnInfo × Fn))
    (h : ((wrappedFns wrap suffix fs).map (·.2.name)).Nodup) :
    ((fileDefs wrap suffix fs).map (·.defName)).Nodup := by
  rw [C16_one_definition_per_wrapped_function]
  rw [List.Nodup, List.pairwise_map] at h ⊢
  exact h.imp fun hne heq => hne (List.append_cancel_right heq)

/-! ## (1)/(3) the binding decision of `Function::codegen` -/

theorem codegenFn_eq_none {wrap : Bool} {suffix : Name} {f : FnInfo} :
    codegenFn wrap suffix f = none ↔ f.internal = true ∧ (wrap = false ∨ f.variadic = true) := by
  cases wrap <;> cases hi : f.internal <;> simp [codegenFn, hi]

theorem C16_variadic_gets_no_binding (wrap : Bool) (suffix : Name) (f : FnInfo)
    (hi : f.internal = true) (hv : f.variadic = true) : codegenFn wrap suffix f = none :=
  codegenFn_eq_none.mpr ⟨hi, .inr hv⟩

theorem C16_static_without_option_gets_no_binding (suffix : Name) (f : FnInfo) (hi : f.internal = true) :
    codegenFn false suffix f = none :=
  codegenFn_eq_none.mpr ⟨hi, .inl rfl⟩

theorem codegenFn_eq_some {wrap : Bool} {suffix : Name} {f : FnInfo} {b : Binding} (h : codegenFn wrap suffix f = some b) :
    b = { ident := f.canonical, link := if shouldWrap wrap f then some (f.canonical ++ suffix) else linkNameAttr f,
          wrapped := shouldWrap wrap f } := by
  simp only [codegenFn] at h
  split at h
  · simp at h
  · split at h
    · simp at h
    · exact (Option.some.inj h).symm

theorem C16_wrapped_only_if_static (wrap : Bool) (suffix : Name) (f : FnInfo) (b : Binding)
    (h : codegenFn wrap suffix f = some b) (hw : b.wrapped = true) : f.internal = true ∧ wrap = true := by
  obtain rfl := codegenFn_eq_some h
  simp only [shouldWrap, Bool.and_eq_true] at hw
  exact hw.1

/-- The C text uses `Function::name()` + suffix, the `link_name` uses the canonical name + suffix:
    they agree when the canonical name is the name. -/
theorem C16_link_matches_wrapper_partial (wrap : Bool) (suffix : Name) (f : FnInfo) (b : Binding)
    (h : codegenFn wrap suffix f = some b) (hw : b.wrapped = true) (hc : f.canonical = f.name) :
    b.link = some (wrapperSymbol suffix f) := by
  obtain rfl := codegenFn_eq_some h
  simp only at hw
  simp [hw, wrapperSymbol, hc]

/-- a renaming callback maps `_foo` to `foo`: the names still count as identical after mangling, so the
    function is wrapped, the binding links to `foo__x`, and the C file defines `_foo__x` -/
theorem C16_link_fails_on_renamed :
    let f : FnInfo := { name := ['_', 'f', 'o', 'o'], canonical := ['f', 'o', 'o'], mangled := some ['_', 'f', 'o', 'o'],
                        linkAttr := none, internal := true, variadic := false }
    codegenFn true ['_', '_', 'x'] f
      = some { ident := ['f', 'o', 'o'], link := some ['f', 'o', 'o', '_', '_', 'x'], wrapped := true } ∧
    wrapperSymbol ['_', '_', 'x'] f = ['_', 'f', 'o', 'o', '_', '_', 'x'] := by
  decide

theorem C16_static_wrapped_partial (suffix : Name) (f : FnInfo)
    (hi : f.internal = true) (hv : f.variadic = false) (hl : f.linkAttr = none)
    (hn : namesIdentical f.canonical (f.mangled.getD f.name) = true) :
    codegenFn true suffix f = some { ident := f.canonical, link := some (f.canonical ++ suffix), wrapped := true } := by
  simp [codegenFn, hi, hv, shouldWrap, linkNameAttr, hl, hn]

example : namesIdentical ['f'] (Option.getD (some ['f']) ['f']) = true := by decide

/-- C++ mode: `static int f1(int)` has the mangled name `_ZL2f1i`; it gets a binding linked to that
    internal symbol and no wrapper -/
theorem C16_fails_on_mangled_static :
    let f : FnInfo := { name := ['f', '1'], canonical := ['f', '1'], mangled := some ['_', 'Z', 'L', '2', 'f', '1', 'i'],
                        linkAttr := none, internal := true, variadic := false }
    codegenFn true ['_', '_', 'x'] f
      = some { ident := ['f', '1'], link := some ['_', 'Z', 'L', '2', 'f', '1', 'i'], wrapped := false } := by
  decide

/-- C: a function named like a Rust keyword (`match` → `match_`) gets no wrapper either -/
theorem C16_fails_on_keyword_name :
    let f : FnInfo := { name := ['m', 'a', 't', 'c', 'h'], canonical := ['m', 'a', 't', 'c', 'h', '_'],
                        mangled := some ['m', 'a', 't', 'c', 'h'], linkAttr := none, internal := true, variadic := false }
    codegenFn true ['_', '_', 'x'] f
      = some { ident := ['m', 'a', 't', 'c', 'h', '_'], link := some ['m', 'a', 't', 'c', 'h'], wrapped := false } := by
  decide

/-! ## obligations on the generated table (`Generated/SerializeArms.lean`)

A change of serialize.rs that flips one of these entries breaks the named theorem.  The longer evaluations
(the lexer over the table, the golden texts) are left to the kernel alone: plain `decide` or `rfl` evaluates
in the elaborator first, at several times the price. -/

/-- the arms of `match self.kind()` in `impl CSerialize for Type`: the list `serP` was written against -/
theorem C16_table_arms :
    arms = [.Void, .NullPtr, .Int, .Float, .Complex, .Alias, .Array, .Function, .ResolvedTypeRef, .Pointer, .Comp, .Enum] := by
  decide

/-- the arms that write the const prefix themselves (where `serP` puts `constP`): all but Array / Function /
    Pointer -/
theorem C16_table_const_prefix_arms :
    constPrefixArms = [.Void, .NullPtr, .Int, .Float, .Complex, .Alias, .ResolvedTypeRef, .Comp, .Enum] := by
  decide

/-- every structural fragment, read by the character lexer, is the C token the model's `Piece` says it is -/
theorem C16_table_fragments_lex :
    lex [] fragConst = [.kconst] ∧ lex [] fragFnConst = [.kconst] ∧
    lex [] fragPtr = [.star false] ∧ lex [] fragPtrConst = [.star true] ∧
    lex [] fragFnOpen = [.lpar] ∧ lex [] fragFnClose = [.rpar] ∧ lex [] fragFnVoid = [.voidp] ∧
    lex [] fragFnArgsOpen = [.lpar] ∧ lex [] fragFnArgsClose = [.rpar] ∧ lex [] fragSep = [.comma] ∧
    lex [] fragStackSep = [] ∧ lex [] fragParOpen = [.lpar] ∧ lex [] fragParClose = [.rpar] ∧
    lex [] (fragArrOpen ++ natText 37 ++ fragArrClose) = [.arr 37] ∧
    lex [] (fragArrOpenTight ++ natText 4 ++ fragArrClose) = [.arr 4] ∧
    lex [] fragVoid = [.ty .void] ∧
    lex [] (fragStruct ++ ['S']) = [.ty (.struct ['S'])] ∧ lex [] (fragUnion ++ ['U']) = [.ty (.union ['U'])] ∧
    lex [] (fragEnum ++ ['E']) = [.ty (.enum ['E'])] := by
  decide +kernel

/-- every builtin kind with a text lexes back to itself (so the texts are pairwise distinct) -/
theorem C16_table_builtin_texts_lex :
    (allIntK.all fun k => match intText k with
      | some tx => lex [] tx == [.ty (.int k)]
      | none => true) = true ∧
    (allFloatK.all fun k => match floatText k with
      | some tx => lex [] tx == [.ty (.float k)]
      | none => true) = true ∧
    (allFloatK.all fun k => match complexText k with
      | some tx => lex [] tx == [.ty (.complex k)]
      | none => true) = true := by
  decide +kernel

/-- type-specifier keywords of C17 (6.7.2) plus the GNU floating types clang accepts without a header -/
def cTypeKeywords : List (List Char) :=
  [['v', 'o', 'i', 'd'], ['c', 'h', 'a', 'r'], ['s', 'h', 'o', 'r', 't'], ['i', 'n', 't'], ['l', 'o', 'n', 'g'],
   ['f', 'l', 'o', 'a', 't'], ['d', 'o', 'u', 'b', 'l', 'e'], ['s', 'i', 'g', 'n', 'e', 'd'],
   ['u', 'n', 's', 'i', 'g', 'n', 'e', 'd'], ['_', 'B', 'o', 'o', 'l'], ['_', 'C', 'o', 'm', 'p', 'l', 'e', 'x'],
   ['_', 'F', 'l', 'o', 'a', 't', '1', '6'], ['_', '_', 'f', 'l', 'o', 'a', 't', '1', '2', '8']]

def splitSp : List Char → List Char → List (List Char)
  | [], cur => [cur.reverse]
  | c :: r, cur => if c == ' ' then cur.reverse :: splitSp r [] else splitSp r (c :: cur)

def wordsOf (s : List Char) : List (List Char) :=
  (splitSp s []).filter (!·.isEmpty)

/-- every integer kind but `Bool` and `WChar`, and every float kind, is spelled with keywords only -/
theorem C16_table_spelling_keywords :
    (allIntK.all fun k => k == .Bool || k == .WChar || match intText k with
      | some tx => (wordsOf tx).all cTypeKeywords.contains
      | none => true) = true ∧
    (allFloatK.all fun k => match floatText k with
      | some tx => (wordsOf tx).all cTypeKeywords.contains
      | none => true) = true := by
  decide +kernel

/-- `_Bool` is written `bool` and `_Complex` `complex`: macros of <stdbool.h> / <complex.h>, not keywords,
    so the wrapper compiles only if the input header includes those -/
theorem C16_fails_on_bool_and_complex_spelling :
    intText .Bool = some ['b', 'o', 'o', 'l'] ∧ cTypeKeywords.contains ['b', 'o', 'o', 'l'] = false ∧
    complexText .Double = some ['d', 'o', 'u', 'b', 'l', 'e', ' ', 'c', 'o', 'm', 'p', 'l', 'e', 'x'] ∧
    cTypeKeywords.contains ['c', 'o', 'm', 'p', 'l', 'e', 'x'] = false := by
  decide

/-- 128-bit integers have no text: the serializer returns `Err` -/
theorem C16_table_int128_unsupported :
    intText .I128 = none ∧ intText .U128 = none ∧
    supported (.ptr false (.base false (.int .U128))) = false := by
  decide

/-- fragments of the wrapper assembly (`impl CSerialize for Function`, `serialize_args`) -/
theorem C16_table_wrapper_fragments :
    fragArgPrefix = ['a', 'r', 'g', '_'] ∧ fragWrapPre = [' '] ∧ fragWrapOpen = ['('] ∧
    fragArgsVoid = ['v', 'o', 'i', 'd'] ∧ fragArgsSep = [',', ' '] ∧
    fragBodyVoidPre = [')', ' ', '{', ' '] ∧ fragBodyVoidPost = ['('] ∧
    fragBodyRetPre = [')', ' ', '{', ' ', 'r', 'e', 't', 'u', 'r', 'n', ' '] ∧ fragBodyRetPost = ['('] ∧
    fragCallSep = [',', ' '] ∧ fragCallClose = [')', ';', ' '] ∧ fragEnd = ['}', '\n'] := by
  decide

/-- two golden wrappers of the test-suite, for either form of the Array arm: the lines of `foo` and of
    `takes_qualified` (shortened to `tq`) in bindgen-tests/tests/expectations/tests/generated/wrap_static_fns.c -/
theorem C16_golden_lines (a : Bool) :
    wrapperText a ['_', '_', 'e', 'x', 't', 'e', 'r', 'n']
      { name := ['f', 'o', 'o'], ret := wInt, params := .nil }
      = some ("int foo__extern(void) { return foo(); }\n".toList) ∧
    wrapperText a ['_', '_', 'e', 'x', 't', 'e', 'r', 'n']
      { name := ['t', 'q'], ret := wInt,
        params := .cons (some ['a', 'r', 'g']) (.tref false (.ptr false (.ptr true (.base true (.int .Int))))) .nil }
      = some ("int tq__extern(const int *const *arg) { return tq(arg); }\n".toList) := by
  -- a literal is `String.ofList` of its characters; left as it is, the kernel computes `toList` through
  -- the UTF-8 bytes, at several times the cost of the rest
  rw [String.toList_ofList, String.toList_ofList]
  revert a
  decide +kernel

/-! ## the `wrap_as_variadic` path (`Model/CDeclVariadic.lean`) -/

theorem paramTypes_prune (ps : Params) (i : Nat) : paramTypes (pruneParams ps i) = (paramTypes ps).eraseIdx i := by
  fun_induction pruneParams ps i <;> simp_all [paramTypes]

theorem paramNames_prune (ps : Params) (i : Nat) : paramNames (pruneParams ps i) = (paramNames ps).eraseIdx i := by
  fun_induction pruneParams ps i <;> simp_all [paramNames]

theorem insertAt_eq (l : List Name) (i : Nat) (x : Name) :
    insertAt l i x = if i ≤ l.length then some (l.insertIdx i x) else none := by
  fun_induction insertAt l i x with
  | case1 | case2 => simp
  | case3 y l i x ih =>
    rw [ih]
    split <;> simp [*]

theorem set_insertIdx_eraseIdx {α : Type} {x : α} (y : α) : ∀ {l : List α} {i : Nat}, l[i]? = some x →
    ((l.eraseIdx i).insertIdx i y).set i x = l
  | [], _, h => by simp at h
  | a :: l, 0, h => by simpa using h.symm
  | a :: l, i + 1, h => by simpa using set_insertIdx_eraseIdx y (l := l) (i := i) (by simpa using h)

/-- The pruned parameter must be named: dropping an unnamed one shifts the `arg_N` numbering of those
    after it. -/
theorem argNames_prune_named (ps : Params) (i k : Nat) (n : Name) (h : (paramNames ps)[i]? = some (some n)) :
    argNames (pruneParams ps i) k = (argNames ps k).eraseIdx i := by
  fun_induction pruneParams ps i generalizing k with
  | case1 => simp [paramNames] at h
  | case2 m t r => simp_all [paramNames, argNames]
  | case3 m t r i ih => cases m <;> simp_all [paramNames, argNames]

theorem getElem?_eraseIdx_shift {α : Type} (l : List α) {i j : Nat} (hne : j ≠ i) :
    (l.eraseIdx i)[if j < i then j else j - 1]? = l[j]? := by
  split
  · next hj => exact List.getElem?_eraseIdx_of_lt hj
  · next hj =>
    obtain ⟨j, rfl⟩ := Nat.exists_eq_add_one.mpr (show 0 < j by omega)
    exact List.getElem?_eraseIdx_of_ge (by omega)

/-- What `vaWrapperDef` returns with the table's placement: the call's arguments and the argument of
    `va_start` in terms of the wrapper's own parameter names. -/
theorem vaWrapperDef_insert_some {suffix : Name} {f : Fn} {idx : Nat} {w : VaWrapperDef}
    (h : vaWrapperDef .insertAtVaListIdx suffix f idx = some w) :
    w.params.map (·.1) = argNames (pruneParams f.params idx) 0 ∧
    w.params.map (·.2) = (paramTypes f.params).eraseIdx idx ∧
    w.forwarded = (w.params.map (·.1)).insertIdx idx fragVaAp ∧ idx ≤ (w.params.map (·.1)).length ∧
    (w.params.map (·.1)).getLast? = some w.vaStartArg := by
  simp only [vaWrapperDef] at h
  split at h
  · next last fwd hl hf =>
    obtain ⟨hle, rfl⟩ : idx ≤ _ ∧ _ = fwd := by simpa [placeAp, insertAt_eq] using hf
    obtain rfl := Option.some.inj h
    rw [map_fst_zip_argNames, map_snd_zip_argNames, paramTypes_prune]
    exact ⟨rfl, rfl, rfl, hle, hl⟩
  · cases h

theorem C16_va_params_pruned (suffix : Name) (f : Fn) (idx : Nat) (w : VaWrapperDef)
    (h : vaWrapperDef .insertAtVaListIdx suffix f idx = some w) :
    w.params.map (·.2) = (paramTypes f.params).eraseIdx idx ∧
    w.params.map (·.1) = argNames (pruneParams f.params idx) 0 ∧
    paramNames (pruneParams f.params idx) = (paramNames f.params).eraseIdx idx ∧
    (∀ (j : Nat) (n : Name), (paramNames f.params)[j]? = some (some n) → j ≠ idx →
      (w.params.map (·.1))[if j < idx then j else j - 1]? = some n) := by
  obtain ⟨hn, ht, _⟩ := vaWrapperDef_insert_some h
  refine ⟨ht, hn, paramNames_prune _ _, fun j n hj hne => ?_⟩
  rw [hn]
  apply argNames_named
  rwa [paramNames_prune, getElem?_eraseIdx_shift _ hne]

/-- The call has one argument per parameter of the wrapped function: `ap` at the index the `va_list`
    had, the wrapper's own parameters in order elsewhere. -/
theorem C16_va_forwarded_positions (suffix : Name) (f : Fn) (idx : Nat) (w : VaWrapperDef)
    (h : vaWrapperDef .insertAtVaListIdx suffix f idx = some w) (hi : idx < (paramTypes f.params).length) :
    w.forwarded.length = (paramTypes f.params).length ∧
    w.forwarded[idx]? = some fragVaAp ∧
    w.forwarded.eraseIdx idx = w.params.map (·.1) := by
  obtain ⟨hn, _, hf, hle, _⟩ := vaWrapperDef_insert_some h
  rw [hf]
  refine ⟨?_, by rw [List.getElem?_insertIdx_self, if_pos hle], List.eraseIdx_insertIdx_self _⟩
  rw [List.length_insertIdx_of_le_length hle, hn, argNames_length, paramTypes_prune, List.length_eraseIdx_of_lt hi]
  omega

/-- With `ap` replaced by the name of the pruned parameter, the forwarded list is what the plain
    wrapper forwards. -/
theorem C16_va_forwarded_in_order (suffix : Name) (f : Fn) (idx : Nat) (w : VaWrapperDef) (n : Name)
    (h : vaWrapperDef .insertAtVaListIdx suffix f idx = some w)
    (hn : (paramNames f.params)[idx]? = some (some n)) :
    w.forwarded.set idx n = argNames f.params 0 ∧ argNames f.params 0 = (wrapperDef suffix f).forwarded := by
  obtain ⟨hp, _, hf, _⟩ := vaWrapperDef_insert_some h
  rw [hf, hp, argNames_prune_named f.params idx 0 n hn]
  exact ⟨set_insertIdx_eraseIdx _ (argNames_named f.params 0 idx n hn), rfl⟩

/-- A named parameter other than the `va_list` is forwarded at its own position, whether or not
    the `va_list` parameter itself has a name. -/
theorem C16_va_forwarded_named (suffix : Name) (f : Fn) (idx : Nat) (w : VaWrapperDef) (j : Nat) (n : Name)
    (h : vaWrapperDef .insertAtVaListIdx suffix f idx = some w) (hi : idx < (paramTypes f.params).length)
    (hj : (paramNames f.params)[j]? = some (some n)) (hne : j ≠ idx) :
    w.forwarded[j]? = some n := by
  obtain ⟨_, _, hE⟩ := C16_va_forwarded_positions suffix f idx w h hi
  have hk := (C16_va_params_pruned suffix f idx w h).2.2.2 j n hj hne
  rwa [← hE, getElem?_eraseIdx_shift _ hne] at hk

theorem C16_va_start_names_last (suffix : Name) (f : Fn) (idx : Nat) (w : VaWrapperDef)
    (h : vaWrapperDef .insertAtVaListIdx suffix f idx = some w) :
    (w.params.map (·.1)).getLast? = some w.vaStartArg ∧ w.params ≠ [] := by
  obtain ⟨_, _, _, _, hl⟩ := vaWrapperDef_insert_some h
  refine ⟨hl, fun he => ?_⟩
  simp [he] at hl

/-- The code panics (`args.last().unwrap()` on an empty list, `Vec::insert` past the end) exactly when
    no parameter remains or the index is past the remaining ones. -/
theorem C16_va_panics_iff (suffix : Name) (f : Fn) (idx : Nat) :
    vaWrapperDef .insertAtVaListIdx suffix f idx = none ↔
      (paramTypes (pruneParams f.params idx) = [] ∨ (paramTypes (pruneParams f.params idx)).length < idx) := by
  rw [← List.length_eq_zero_iff, ← argNames_length _ 0, List.length_eq_zero_iff]
  simp only [vaWrapperDef, placeAp, insertAt_eq]
  cases hg : (argNames (pruneParams f.params idx) 0).getLast? with
  | none => simp [List.getLast?_eq_none_iff.mp hg]
  | some last =>
    have hne : argNames (pruneParams f.params idx) 0 ≠ [] := fun e => by simp [e] at hg
    by_cases hle : idx ≤ (argNames (pruneParams f.params idx) 0).length
    · simp [hle, hne]
    · simpa [hle, hne] using Nat.lt_of_not_le hle

theorem trueIdxs_eq (bs : List Bool) (i : Nat) : trueIdxs bs i = ((bs.zipIdx i).filter (·.1)).map (·.2) := by
  induction bs generalizing i with
  | nil => rfl
  | cons b r ih => cases b <;> simp [trueIdxs, ih]

theorem mem_trueIdxs (bs : List Bool) (i j : Nat) : j ∈ trueIdxs bs i ↔ i ≤ j ∧ bs[j - i]? = some true := by
  simp only [trueIdxs_eq, List.mem_map, List.mem_filter, Prod.exists, List.mk_mem_zipIdx_iff_le_and_getElem?_sub,
    exists_eq_right]

theorem trueIdxs_nodup (bs : List Bool) (i : Nat) : (trueIdxs bs i).Nodup := by
  rw [trueIdxs_eq]
  exact (List.filter_sublist.map _).nodup (List.zipIdx_map_snd i bs ▸ List.nodup_range')

theorem trueIdxs_eq_singleton (bs : List Bool) (i : Nat) :
    trueIdxs bs 0 = [i] ↔ ∀ k, bs[k]? = some true ↔ k = i := by
  rw [← List.perm_singleton, List.perm_ext_iff_of_nodup (trueIdxs_nodup bs 0) (List.pairwise_singleton _ i)]
  simp only [mem_trueIdxs, Nat.zero_le, Nat.sub_zero, true_and, List.mem_singleton]

/-- `wrap_as_variadic_fn` answers exactly for signatures with more arguments than the bound of the
    table, of which exactly one walks to `__builtin_va_list`, and then with the callback's name. -/
theorem wrapAsVariadicFn_eq_some {chains : List TyChain} {cb : Option Name} {w : WrapVa} :
    wrapAsVariadicFn chains cb = some w ↔
      vaMaxArgsNeverWrapped < chains.length ∧ cb = some w.newName ∧
      ∀ k, chains[k]?.map reachesVaList = some true ↔ k = w.idx := by
  simp only [← List.getElem?_map, ← trueIdxs_eq_singleton]
  unfold wrapAsVariadicFn
  split
  · next hlen => exact ⟨nofun, fun h => absurd h.1 (Nat.not_lt.mpr hlen)⟩
  · next hlen =>
    split
    · next i hi =>
      cases w
      cases cb <;> simp [hi, Nat.lt_of_not_le hlen]
    · next hne => exact ⟨nofun, fun h => (hne _ h.2.2).elim⟩

theorem C16_va_decision (chains : List TyChain) (cb : Option Name) (w : WrapVa)
    (h : wrapAsVariadicFn chains cb = some w) :
    vaMaxArgsNeverWrapped < chains.length ∧ w.idx < chains.length ∧ cb = some w.newName ∧
    (∀ k, (chains[k]?.map reachesVaList) = some true ↔ k = w.idx) := by
  obtain ⟨hlen, hcb, hk⟩ := wrapAsVariadicFn_eq_some.mp h
  obtain ⟨_, hc, _⟩ := Option.map_eq_some_iff.mp ((hk w.idx).mpr rfl)
  exact ⟨hlen, (List.getElem?_eq_some_iff.mp hc).1, hcb, hk⟩

/-- `Function::codegen` guards the `unwrap`: whenever `wrap_as_variadic_fn` answers for the argument
    list of `f`, a parameter remains and the index is in range, so `Function::serialize` does not panic. -/
theorem C16_va_codegen_guards_unwrap (suffix : Name) (f : Fn) (chains : List TyChain) (cb : Option Name) (w : WrapVa)
    (hlen : chains.length = (paramTypes f.params).length)
    (h : wrapAsVariadicFn chains cb = some w) :
    (vaWrapperDef .insertAtVaListIdx suffix f w.idx).isSome = true := by
  obtain ⟨h1, h2, _, _⟩ := C16_va_decision chains cb w h
  have hb : vaMaxArgsNeverWrapped = 1 := by decide
  rw [Option.isSome_iff_ne_none, Ne, C16_va_panics_iff, paramTypes_prune, ← List.length_eq_zero_iff,
    List.length_eraseIdx_of_lt (hlen ▸ h2)]
  omega

/-- the only parameter being the `va_list` is where `Function::serialize` alone would panic -/
theorem C16_va_panics_on_sole_va_list :
    vaWrapperDef .insertAtVaListIdx ['_', '_', 'x'] { name := nF, ret := wInt, params := .cons (some ['v']) (.base false (.named vaBuiltinName)) .nil } 0 = none ∧
    wrapAsVariadicFn [[(some vaBuiltinName, true)]] (some ['g']) = none := by
  decide

theorem C16_va_none_unchanged (a : Bool) (pl : ApPlacement) (suffix : Name) (f : Fn) :
    wrapperTextV a pl suffix f none = (match wrapperText a suffix f with
      | some t => .ok t
      | none => .error) := rfl

theorem C16_va_codegen_without_callback_unchanged (wrap : Bool) (suffix : Name) (f : FnInfo) (chains : List TyChain) (cb : Option Name)
    (h : wrapAsVariadicFn chains cb = none) :
    codegenFnV wrap suffix f chains cb = (codegenFn wrap suffix f).map fun b =>
      { ident := b.ident, link := b.link, wrapped := b.wrapped, va := none, cVariadic := f.variadic,
        args := List.range chains.length } := by
  simp only [codegenFnV, h]
  cases codegenFn wrap suffix f with
  | none => rfl
  | some b => simp

/-- The binding of a function wrapped as variadic: called `new_name`, linked to `canonical ++ suffix`
    like any wrapped function, variadic, with every parameter but the `va_list` one. -/
theorem C16_va_binding (suffix : Name) (f : FnInfo) (chains : List TyChain) (cb : Option Name) (w : WrapVa) (b : Binding)
    (hb : codegenFn true suffix f = some b) (hw : b.wrapped = true) (hv : f.variadic = false)
    (h : wrapAsVariadicFn chains cb = some w) :
    codegenFnV true suffix f chains cb = some
      { ident := w.newName, link := some (f.canonical ++ suffix), wrapped := true, va := some w, cVariadic := true,
        args := (List.range chains.length).filter (· != w.idx) } := by
  obtain rfl := codegenFn_eq_some hb
  simp only at hw
  simp [codegenFnV, hb, hw, hv, h, bne]

theorem C16_va_variadic_static_no_binding (wrap : Bool) (suffix : Name) (f : FnInfo) (chains : List TyChain) (cb : Option Name)
    (hi : f.internal = true) (hv : f.variadic = true) : codegenFnV wrap suffix f chains cb = none := by
  simp [codegenFnV, C16_variadic_gets_no_binding wrap suffix f hi hv]

/-- the generated table: `ap` is inserted at the index the `va_list` had -/
theorem C16_table_va_placement : vaApPlacement = .insertAtVaListIdx := by decide

/-- `C16_va_forwarded_in_order` with the placement the table records -/
theorem C16_va_forwarded_in_order_now (suffix : Name) (f : Fn) (idx : Nat) (w : VaWrapperDef) (n : Name)
    (h : vaWrapperDef vaApPlacement suffix f idx = some w)
    (hn : (paramNames f.params)[idx]? = some (some n)) :
    w.forwarded.set idx n = argNames f.params 0 :=
  (C16_va_forwarded_in_order suffix f idx w n (C16_table_va_placement ▸ h) hn).1

/-- the other placement (`args.push("ap")`): `int f(int a, va_list v, void *p)` is called as `f(a, p, ap)`,
    `p` passed as the `va_list` and `ap` as `p`; both are pointers, so C accepts it -/
theorem C16_va_push_misorders :
    let f : Fn := { name := nF, ret := wInt,
                    params := .cons (some nA) wInt (.cons (some ['v']) (.base false (.named ['v', 'a', '_', 'l', 'i', 's', 't']))
                      (.cons (some nP) (.ptr false (.base false .void)) .nil)) }
    (vaWrapperDef .pushLast ['_', '_', 'x'] f 1).map (·.forwarded) = some [nA, nP, fragVaAp] ∧
    (vaWrapperDef .insertAtVaListIdx ['_', '_', 'x'] f 1).map (·.forwarded) = some [nA, fragVaAp, nP] ∧
    argNames f.params 0 = [nA, ['v'], nP] := by
  decide

/-- fragments of the `wrap_as_variadic` path and the bound / name of `wrap_as_variadic_fn` -/
theorem C16_table_va_fragments :
    fragIndent = [' ', ' ', ' ', ' '] ∧ fragVaOpen = [',', ' ', '.', '.', '.', ')', ' ', '{', '\n'] ∧ fragVaRetDecl = [' ', 'r', 'e', 't', ';', '\n'] ∧
    fragVaListDecl = ['v', 'a', '_', 'l', 'i', 's', 't', ' ', 'a', 'p', ';', '\n', '\n'] ∧ fragVaStartPre = ['v', 'a', '_', 's', 't', 'a', 'r', 't', '(', 'a', 'p', ',', ' '] ∧
    fragVaStartPost = [')', ';', '\n'] ∧ fragVaAssign = ['r', 'e', 't', ' ', '=', ' '] ∧ fragVaCallOpen = ['('] ∧
    fragVaAp = ['a', 'p'] ∧ fragVaCallClose = [')', ';', '\n'] ∧ fragVaEnd = ['v', 'a', '_', 'e', 'n', 'd', '(', 'a', 'p', ')', ';', '\n'] ∧
    fragVaReturn = ['r', 'e', 't', 'u', 'r', 'n', ' ', 'r', 'e', 't', ';', '\n'] ∧
    vaMaxArgsNeverWrapped = 1 ∧ vaBuiltinName = ['_', '_', 'b', 'u', 'i', 'l', 't', 'i', 'n', '_', 'v', 'a', '_', 'l', 'i', 's', 't'] := by
  decide +kernel

/-- the two variadic golden wrappers of the test-suite
    (bindgen-tests/tests/expectations/tests/generated/wrap_static_fns.c) -/
theorem C16_va_golden_lines (a : Bool) :
    let ps : Params := .cons (some ['i']) wInt (.cons (some ['v', 'a']) (.base false (.named vaBuiltinName)) .nil)
    wrapperTextV a vaApPlacement ['_', '_', 'e', 'x', 't', 'e', 'r', 'n']
      { name := ['w', 'r', 'a', 'p', '_', 'a', 's', '_', 'v', 'a', 'r', 'i', 'a', 'd', 'i', 'c', '_', 'f', 'n', '1'], ret := wInt, params := ps } (some { newName := [], idx := 1 })
      = .ok ['i', 'n', 't', ' ', 'w', 'r', 'a', 'p', '_', 'a', 's', '_', 'v', 'a', 'r', 'i', 'a', 'd', 'i', 'c', '_', 'f', 'n', '1', '_', '_', 'e', 'x', 't', 'e', 'r', 'n', '(', 'i', 'n', 't', ' ', 'i', ',', ' ', '.', '.', '.', ')', ' ', '{', '\n', ' ', ' ', ' ', ' ', 'i', 'n', 't', ' ', 'r', 'e', 't', ';', '\n', ' ', ' ', ' ', ' ', 'v', 'a', '_', 'l', 'i', 's', 't', ' ', 'a', 'p', ';', '\n', '\n', ' ', ' ', ' ', ' ', 'v', 'a', '_', 's', 't', 'a', 'r', 't', '(', 'a', 'p', ',', ' ', 'i', ')', ';', '\n', ' ', ' ', ' ', ' ', 'r', 'e', 't', ' ', '=', ' ', 'w', 'r', 'a', 'p', '_', 'a', 's', '_', 'v', 'a', 'r', 'i', 'a', 'd', 'i', 'c', '_', 'f', 'n', '1', '(', 'i', ',', ' ', 'a', 'p', ')', ';', '\n', ' ', ' ', ' ', ' ', 'v', 'a', '_', 'e', 'n', 'd', '(', 'a', 'p', ')', ';', '\n', ' ', ' ', ' ', ' ', 'r', 'e', 't', 'u', 'r', 'n', ' ', 'r', 'e', 't', ';', '\n', '}', '\n'] ∧
    wrapperTextV a vaApPlacement ['_', '_', 'e', 'x', 't', 'e', 'r', 'n']
      { name := ['w', 'r', 'a', 'p', '_', 'a', 's', '_', 'v', 'a', 'r', 'i', 'a', 'd', 'i', 'c', '_', 'f', 'n', '2'], ret := .base false .void, params := ps } (some { newName := [], idx := 1 })
      = .ok ['v', 'o', 'i', 'd', ' ', 'w', 'r', 'a', 'p', '_', 'a', 's', '_', 'v', 'a', 'r', 'i', 'a', 'd', 'i', 'c', '_', 'f', 'n', '2', '_', '_', 'e', 'x', 't', 'e', 'r', 'n', '(', 'i', 'n', 't', ' ', 'i', ',', ' ', '.', '.', '.', ')', ' ', '{', '\n', ' ', ' ', ' ', ' ', 'v', 'a', '_', 'l', 'i', 's', 't', ' ', 'a', 'p', ';', '\n', '\n', ' ', ' ', ' ', ' ', 'v', 'a', '_', 's', 't', 'a', 'r', 't', '(', 'a', 'p', ',', ' ', 'i', ')', ';', '\n', ' ', ' ', ' ', ' ', 'w', 'r', 'a', 'p', '_', 'a', 's', '_', 'v', 'a', 'r', 'i', 'a', 'd', 'i', 'c', '_', 'f', 'n', '2', '(', 'i', ',', ' ', 'a', 'p', ')', ';', '\n', ' ', ' ', ' ', ' ', 'v', 'a', '_', 'e', 'n', 'd', '(', 'a', 'p', ')', ';', '\n', '}', '\n'] := by
  revert a
  decide +kernel

theorem C16_va_locals_fresh_partial (f : Fn) (idx : Nat) (h : vaNameClash f idx = false) (n : Name)
    (hn : n ∈ vaUsedNames f idx) : n ∉ vaLocals (!isVoid f.ret) := by
  intro hl
  simp only [vaNameClash, List.any_eq_false] at h
  exact h n hn (by simpa using hl)

/-- `int f(int ret, va_list v)`: the wrapper declares `int ret;` next to its parameter `ret` (C11 6.2.1p4:
    same scope; clang: "redefinition of 'ret'"); same for a parameter called `ap` -/
theorem C16_va_fails_on_name_clash :
    let ps : Params := .cons (some ['r', 'e', 't']) wInt (.cons (some ['v']) (.base false (.named ['v', 'a', '_', 'l', 'i', 's', 't'])) .nil)
    vaNameClash { name := nF, ret := wInt, params := ps } 1 = true ∧
    wrapperTextV true .insertAtVaListIdx ['_', '_', 'x'] { name := nF, ret := wInt, params := ps } (some { newName := [], idx := 1 })
      = .ok ['i', 'n', 't', ' ', 'f', '_', '_', 'x', '(', 'i', 'n', 't', ' ', 'r', 'e', 't', ',', ' ', '.', '.', '.', ')', ' ', '{', '\n', ' ', ' ', ' ', ' ', 'i', 'n', 't', ' ', 'r', 'e', 't', ';', '\n', ' ', ' ', ' ', ' ', 'v', 'a', '_', 'l', 'i', 's', 't', ' ', 'a', 'p', ';', '\n', '\n', ' ', ' ', ' ', ' ', 'v', 'a', '_', 's', 't', 'a', 'r', 't', '(', 'a', 'p', ',', ' ', 'r', 'e', 't', ')', ';', '\n', ' ', ' ', ' ', ' ', 'r', 'e', 't', ' ', '=', ' ', 'f', '(', 'r', 'e', 't', ',', ' ', 'a', 'p', ')', ';', '\n', ' ', ' ', ' ', ' ', 'v', 'a', '_', 'e', 'n', 'd', '(', 'a', 'p', ')', ';', '\n', ' ', ' ', ' ', ' ', 'r', 'e', 't', 'u', 'r', 'n', ' ', 'r', 'e', 't', ';', '\n', '}', '\n'] ∧
    vaNameClash { name := nF, ret := .base false .void,
                  params := .cons (some ['v']) (.base false (.named ['v', 'a', '_', 'l', 'i', 's', 't'])) (.cons (some ['a', 'p']) wInt .nil) } 0 = true ∧
    vaNameClash { name := nF, ret := .base false .void, params := ps } 1 = false := by
  decide +kernel

/-- `va_list`, `va_start`, `va_end` are a typedef and macros of <stdarg.h>, not keywords: a header that
    spells the parameter `__builtin_va_list` without including <stdarg.h> (as the test-suite's own
    wrap-static-fns.h does) gets a wrapper that does not compile -/
theorem C16_va_fails_without_stdarg :
    (wordsOf fragVaListDecl).head? = some ['v', 'a', '_', 'l', 'i', 's', 't'] ∧
    cTypeKeywords.contains ['v', 'a', '_', 'l', 'i', 's', 't'] = false ∧
    ['v', 'a', '_', 's', 't', 'a', 'r', 't'] <+: fragVaStartPre ∧ ['v', 'a', '_', 'e', 'n', 'd'] <+: fragVaEnd ∧
    vaBuiltinName ≠ ['v', 'a', '_', 'l', 'i', 's', 't'] :=
  ⟨by decide, by decide, by decide, by decide, by decide⟩

end BindgenModel.CDecl

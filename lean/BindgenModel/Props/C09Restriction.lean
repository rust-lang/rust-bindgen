import BindgenModel.Props.C07
/-! # C09 — `analysis_restriction`

The logical half of "each emitted item is textually identical to the same item in the
un-allow-listed bindings": an analysis run on a sub-graph closed under the edges
it reads computes there exactly the facts it computes on the full graph.  With recursive allow-listing
every admitted edge out of an allow-listed item ends in an allow-listed or a blocklisted one
(`C09_closure`); where none is blocklisted the allow-listed items are such a sub-graph.  No Lean
statement instantiates `hclosed` with the allow-listed set. -/
namespace BindgenModel.Worklist

variable {N L : Type} [DecidableEq N] [DecidableEq L]

omit [DecidableEq L] in
theorem IsLeastStable.restrict {F G : Framework N L} {sF sG : N → L} (hsF : IsLeastStable F sF)
    (hsG : IsLeastStable G sG) (hF : LawfulCore F) (hl : G.le = F.le)
    (hr : ∀ s, ∀ n ∈ G.nodes, G.rule s n = F.rule s n)
    (hsub : ∀ n ∈ G.nodes, n ∈ F.nodes) (hclosed : ∀ n ∈ G.nodes, ∀ m ∈ F.reads n, m ∈ G.nodes) :
    ∀ n ∈ G.nodes, sG n = sF n := by
  -- `sF` is stable on `G`, so `sG` is below it
  have h1 : ∀ n, F.le (sG n) (sF n) = true := by
    rw [← hl]
    exact hsG.least sF fun n hn => (stable_congr hl (hr sF n hn)).mpr (hsF.stable n (hsub n hn))
  -- `sF` with `sG` pasted in on `G.nodes` is stable on `F`, so `sF` is below it
  let p : N → L := fun n => if n ∈ G.nodes then sG n else sF n
  have hp_le : ∀ m, F.le (p m) (sF m) = true := by
    intro m
    show F.le (if m ∈ G.nodes then sG m else sF m) (sF m) = true
    split
    · exact h1 m
    · exact hF.le_refl _
  have hpst : ∀ n ∈ F.nodes, Stable F p n := by
    intro n hn
    show F.le (F.rule p n) (if n ∈ G.nodes then sG n else sF n) = true
    split
    · rename_i hg
      have hrule : F.rule p n = F.rule sG n :=
        hF.reads_only p sG n fun m hm => if_pos (hclosed n hg m hm)
      rw [hrule]
      exact (stable_congr hl (hr sG n hg)).mp (hsG.stable n hg)
    · exact hF.le_trans _ _ _ (hF.mono p sF n hp_le) (hsF.stable n hn)
  intro n hn
  have h2 := hsF.least p hpst n
  rw [show p n = sG n from if_pos hn] at h2
  exact hF.le_antisymm _ _ (h1 n) h2

theorem C09_analysis_restriction (F G : Framework N L) (hF : Lawful F) (hG : Lawful G)
    (hbot : ∀ a, F.le F.bot a = true)
    (hsame : G.bot = F.bot ∧ G.le = F.le ∧ G.rule = F.rule)
    (hsub : ∀ n ∈ G.nodes, n ∈ F.nodes)
    (hclosed : ∀ n ∈ G.nodes, ∀ m ∈ F.reads n, m ∈ G.nodes)
    (hdF : ∀ n ∈ F.nodes, ∀ m ∈ F.deps n, m ∈ F.nodes)
    (hdG : ∀ n ∈ G.nodes, ∀ m ∈ G.deps n, m ∈ G.nodes)
    (wlF wlG : List N)
    (hwlF : ∀ n ∈ wlF, n ∈ F.nodes) (hallF : ∀ n ∈ F.nodes, n ∈ wlF)
    (hwlG : ∀ n ∈ wlG, n ∈ G.nodes) (hallG : ∀ n ∈ G.nodes, n ∈ wlG) :
    ∀ n ∈ G.nodes, analyze G wlG n = analyze F wlF n := by
  obtain ⟨hb, hl, hr⟩ := hsame
  exact (analyze_isLeastStable F hF hbot hdF wlF hwlF hallF).restrict
    (analyze_isLeastStable G hG (hl ▸ hb ▸ hbot) hdG wlG hwlG hallG) hF.core hl (fun _ _ _ => hr ▸ rfl) hsub hclosed

end BindgenModel.Worklist

import BindgenModel.Lemmas.StructLayout
/-!
# C02, layer 7: opaque records

An opaque record of known layout is one blob of that layout; its alignment is made explicit by
`repr(align)` or by a zero-sized `_bindgen_align` field.
-/
namespace BindgenModel.C02
open BindgenModel.Layout BindgenModel.CompCodegen

theorem isUnion_and_isRustUnion (o : Opts) (c : CAgg) : (c.isUnion && (c.isRustUnion o).1) = (c.isRustUnion o).1 := by
  unfold CAgg.isRustUnion
  cases c.isUnion <;> simp

theorem emit_opaque (o : Opts) (c : CAgg) (l : Layout) (hop : c.isOpaque = true) (hfw : c.forwardDecl = false)
    (hl : c.layout = some l) :
    emit o c =
      let front := c.hasBitfields && decide (l.align ≤ 8)
      let fs := if front then [alignFieldFor o l.align, blobField .opaqueBlob l] else [blobField .opaqueBlob l]
      if fs.any (fun f => f.blob == some .panic) then none else
      some { isUnion := (c.isRustUnion o).1, packed := none, align := if front then none else some l.align,
             fields := fs } := by
  unfold emit
  simp only [hop, hfw, hl, if_true, Bool.not_true, Bool.and_false, Bool.false_eq_true, if_false, Bool.not_false,
    Bool.true_and, Option.isNone_some, List.nil_append, ite_self, isUnion_and_isRustUnion]
  cases c.hasBitfields && decide (l.align ≤ 8) <;> rfl

theorem opaque_layout (o : Opts) (c : CAgg) (h : ClangOpaque c = true) (hu : o.u64Align ≤ 8) :
    ∃ r l, emit o c = some r ∧ reprC r = some l ∧
      (∀ cl, c.layout = some cl → l.size = cl.size ∧ l.align = cl.align) ∧
      l.userOffsets = [] ∧ r.isUnion = (c.isRustUnion o).1 ∧
      (r.fields.filter (fun f => f.name == .opaqueBlob)).length = 1 := by
  unfold ClangOpaque at h
  cases hl : c.layout with
  | none => simp [hl] at h
  | some l =>
    simp only [hl, Bool.and_eq_true, Bool.not_eq_true', decide_eq_true_eq, beq_iff_eq, bne_iff_ne, ne_eq] at h
    obtain ⟨⟨hop, hfw⟩, ⟨hal, h3⟩, hsz⟩ := h
    have hA : max l.align 1 = l.align := Nat.max_eq_left hal
    obtain ⟨b1, b2, b3, b4, -⟩ := blobField_spec .opaqueBlob l h3 (by rw [hA]; exact hsz)
    obtain ⟨af1, af2, af3, af4⟩ := alignFieldFor_spec o l.align hu hal
    rw [emit_opaque o c l hop hfw hl]
    rw [hA] at b3
    generalize blobField .opaqueBlob l = BF at b1 b2 b3 b4
    generalize alignFieldFor o l.align = AF at af1 af2 af3 af4
    have hs := alignTo_of_mod_eq_zero _ _ hsz
    have hcl : ∀ cl, some l = some cl → l.size = cl.size ∧ l.align = cl.align := by
      intro cl hcl
      cases hcl
      exact ⟨rfl, rfl⟩
    -- `placeFields` and `unionFields` compute the same offsets, named here
    cases c.hasBitfields && decide (l.align ≤ 8)
    · simp only [Bool.false_eq_true, if_false, List.any_cons, List.any_nil, Bool.or_false, b4]
      refine ⟨_, _, rfl, reprC_eq _ none (some l.align) _ l (offs := [(.opaqueBlob, 0)]) ?_ (Or.inl rfl)
        (Or.inr ⟨rfl, Nat.le_refl _⟩) hs, hcl, rfl, rfl, by simp [b1]⟩
      cases (c.isRustUnion o).1 <;>
        simp [unionFields, placeFields, effAlign, alignTo_zero_left, b1, b2, b3, Nat.max_eq_right hal]
    · simp only [if_true, List.any_cons, List.any_nil, Bool.or_false, af4, b4]
      refine ⟨_, _, rfl, reprC_eq _ none none _ l (offs := [(.bindgenAlign, 0), (.opaqueBlob, 0)]) ?_ (Or.inl rfl)
        (Or.inl ⟨rfl, rfl⟩) hs, hcl, rfl, rfl, by simp [af3, b1]⟩
      have hm : max (max 1 AF.align) l.align = l.align := by omega
      cases (c.isRustUnion o).1 <;>
        simp [unionFields, placeFields, effAlign, alignTo_zero_left, af2, af3, b1, b2, b3, hm]

theorem opaque_union_counterexample :
    ClangOpaque { isUnion := true, layout := some { size := 4, align := 4 }, fields := [], isOpaque := true } = true ∧
    (emit {} { isUnion := true, layout := some { size := 4, align := 4 }, fields := [], isOpaque := true }).map
      (·.isUnion) = some true := by
  decide

/-- Without `hnu`, `r.isUnion = false` fails: an opaque union that qualifies as a Rust union is emitted as
`union { _bindgen_opaque_blob: … }` (`opaque_union_counterexample`). -/
theorem opaque_exact (o : Opts) (c : CAgg) (h : ClangOpaque c = true) (hu : o.u64Align ≤ 8)
    (hnu : (c.isRustUnion o).1 = false) :
    ∃ r l, emit o c = some r ∧ reprC r = some l ∧
      (∀ cl, c.layout = some cl → l.size = cl.size ∧ l.align = cl.align) ∧
      l.userOffsets = [] ∧ r.isUnion = false ∧
      (r.fields.filter (fun f => f.name == .opaqueBlob)).length = 1 := by
  obtain ⟨r, l, h1, h2, h3, h4, h5, h6⟩ := opaque_layout o c h hu
  exact ⟨r, l, h1, h2, h3, h4, by rw [h5, hnu], h6⟩

end BindgenModel.C02

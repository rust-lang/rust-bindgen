import BindgenModel.Model.CExpr
/-! For `C05_cexpr_eq_c_partial`: cexpr's wrapping-i64 operators agree with C's typed operators on
signed `int` / `long` / `long long` operands. -/
namespace BindgenModel.CExpr

theorem bmod64_eq (x : Int) (h1 : -9223372036854775808 ≤ x) (h2 : x ≤ 9223372036854775807) :
    Int.bmod x 18446744073709551616 = x := by
  apply Int.bmod_eq_of_le <;> omega
theorem bmod32_eq (x : Int) (h1 : -2147483648 ≤ x) (h2 : x ≤ 2147483647) :
    Int.bmod x 4294967296 = x := by
  apply Int.bmod_eq_of_le <;> omega

theorem wrap64_eq (x : Int) (h1 : -9223372036854775808 ≤ x) (h2 : x ≤ 9223372036854775807) : wrap64 x = x :=
  bmod64_eq x h1 h2

theorem wrap64_range (x : Int) : -9223372036854775808 ≤ wrap64 x ∧ wrap64 x ≤ 9223372036854775807 := by
  unfold wrap64
  have h1 := Int.bmod_lt (x := x) (m := 18446744073709551616) (by omega)
  have h2 := Int.le_bmod (x := x) (m := 18446744073709551616) (by omega)
  omega

theorem ofInt64_eq_signExtend (a : Int) (h1 : -2147483648 ≤ a) (h2 : a ≤ 2147483647) :
    BitVec.ofInt 64 a = (BitVec.ofInt 32 a).signExtend 64 := by
  apply BitVec.eq_of_toInt_eq
  rw [BitVec.toInt_signExtend_of_le (by omega), BitVec.toInt_ofInt, BitVec.toInt_ofInt]
  show Int.bmod a 18446744073709551616 = Int.bmod a 4294967296
  rw [bmod64_eq a (by omega) (by omega), bmod32_eq a h1 h2]

/-- cexpr computes a bitwise operator on 64 bits, C on two `int`s on 32: commuting with sign extension
keeps the result within 32 bits -/
theorem bitwise64_int (f : ∀ {w}, BitVec w → BitVec w → BitVec w)
    (hf : ∀ x y : BitVec 32, (f x y).signExtend 64 = f (x.signExtend 64) (y.signExtend 64))
    (a b : Int) (ha1 : -2147483648 ≤ a) (ha2 : a ≤ 2147483647) (hb1 : -2147483648 ≤ b) (hb2 : b ≤ 2147483647) :
    -2147483648 ≤ (f (BitVec.ofInt 64 a) (BitVec.ofInt 64 b)).toInt ∧
      (f (BitVec.ofInt 64 a) (BitVec.ofInt 64 b)).toInt ≤ 2147483647 := by
  rw [ofInt64_eq_signExtend a ha1 ha2, ofInt64_eq_signExtend b hb1 hb2, ← hf,
    BitVec.toInt_signExtend_of_le (by omega)]
  exact ⟨BitVec.le_toInt _, BitVec.toInt_le⟩

theorem holds_signed_iff {t : CTy} (hs : t.signed = true) {v : Int} :
    t.holds v = true ↔ -(2 ^ (t.bits - 1)) ≤ v ∧ v ≤ 2 ^ (t.bits - 1) - 1 := by
  have hb : t ≠ .bool := by
    rintro rfl
    cases hs
  simp only [CTy.holds, CTy.lo, CTy.hi, hs, hb, if_true, if_false, Bool.and_eq_true, decide_eq_true_eq]

theorem holds_int (v : Int) : CTy.holds .int v = true ↔ (-2147483648 ≤ v ∧ v ≤ 2147483647) :=
  holds_signed_iff rfl
theorem holds_long (v : Int) : CTy.holds .long v = true ↔ (-9223372036854775808 ≤ v ∧ v ≤ 9223372036854775807) :=
  holds_signed_iff rfl
theorem holds_llong (v : Int) : CTy.holds .llong v = true ↔ (-9223372036854775808 ≤ v ∧ v ≤ 9223372036854775807) :=
  holds_signed_iff rfl

theorem holds_signed_i64 {t : CTy} (hs : t.signed = true) {v : Int} (h : t.holds v = true) :
    -9223372036854775808 ≤ v ∧ v ≤ 9223372036854775807 := by
  rw [holds_signed_iff hs] at h
  have h63 : t.signed = true → (2 : Int) ^ (t.bits - 1) ≤ 2 ^ 63 := by cases t <;> decide
  have := h63 hs
  omega

theorem holds_unsigned {t : CTy} (hs : t.signed = false) {v : Int} (h : t.holds v = true) :
    0 ≤ v ∧ v < 2 ^ t.bits := by
  simp only [CTy.holds, CTy.lo, CTy.hi, hs, Bool.false_eq_true, if_false, Bool.and_eq_true,
    decide_eq_true_eq] at h
  refine ⟨h.1, Int.lt_of_le_of_lt h.2 ?_⟩
  split
  · next hb =>
    subst hb
    decide
  · omega

theorem uacInt_of_signed_eq {a b : CTy} (h : a.signed = b.signed) :
    uacInt a b = if a.rank < b.rank then b else a := by
  unfold uacInt
  split
  · next hab => rw [hab, if_neg (Nat.lt_irrefl _)]
  · rfl

theorem ub_ite_eq_val {c : Prop} [Decidable c] {x : CRes} {w : CVal} :
    (if c then .ub else x) = .val w ↔ ¬ c ∧ x = .val w := by
  split <;> simp [*]

def SL (t : CTy) : Prop := t = .int ∨ t = .long ∨ t = .llong

/-- splits `h` about `cIntBin` into the 3×3 pairs of `SL` types and normalises each; not used below -/
macro "cbin_cases" hta:ident htb:ident ha:ident hb:ident h:ident : tactic => `(tactic|
  (rcases $hta:ident with hx | hx | hx <;> rcases $htb:ident with hy | hy | hy <;>
    (subst hx; subst hy
     simp only [holds_int, holds_long, holds_llong] at $ha:ident $hb:ident
     simp (disch := omega) [cIntBin, promote, uacInt, CTy.rank, CTy.signed, CTy.isFloat, CTy.bits, convInt,
      bmod32_eq, bmod64_eq, holds_int, holds_long, holds_llong] at $h:ident)))

/-- then closes `h : (if in-range then val r else ub) = val (int t v)` ⊢ cexpr result = v; not used below -/
macro "cbin_finish" h:ident : tactic => `(tactic|
  (split at $h:ident
   · simp only [CRes.val.injEq, CVal.int.injEq] at $h:ident
     obtain ⟨hx, hy⟩ := $h:ident
     subst hx; subst hy
     simp only [cexprIntBin, Outcome.ok.injEq, Res.int.injEq]
     apply wrap64_eq <;> omega
   · simp at $h:ident))

theorem SL.promote_eq {t : CTy} (h : SL t) : promote t = t := by
  rcases h with rfl | rfl | rfl <;> rfl

theorem SL.signed_eq {t : CTy} (h : SL t) : t.signed = true := by
  rcases h with rfl | rfl | rfl <;> rfl

theorem SL.bits_le {t : CTy} (h : SL t) : t.bits ≤ 64 := by
  rcases h with rfl | rfl | rfl <;> decide

theorem SL.i64 {t : CTy} (h : SL t) {v : Int} (hv : t.holds v = true) :
    -9223372036854775808 ≤ v ∧ v ≤ 9223372036854775807 :=
  holds_signed_i64 h.signed_eq hv

theorem SL.convInt_eq {t : CTy} (h : SL t) {v : Int} (hv : t.holds v = true) : convInt t v = v := by
  rcases h with rfl | rfl | rfl <;> simp only [holds_int, holds_long, holds_llong] at hv
  · exact bmod32_eq v hv.1 hv.2
  · exact bmod64_eq v hv.1 hv.2
  · exact bmod64_eq v hv.1 hv.2

theorem SL.holds_bnot {t : CTy} (h : SL t) {v : Int} (hv : t.holds v = true) : t.holds (-v - 1) = true := by
  rw [holds_signed_iff h.signed_eq] at hv ⊢
  omega

theorem SL.holds_bitwise {t : CTy} (h : SL t) (f : ∀ {w}, BitVec w → BitVec w → BitVec w)
    (hf : ∀ x y : BitVec 32, (f x y).signExtend 64 = f (x.signExtend 64) (y.signExtend 64))
    {a b : Int} (ha : t.holds a = true) (hb : t.holds b = true) :
    t.holds (f (BitVec.ofInt 64 a) (BitVec.ofInt 64 b)).toInt = true := by
  rcases h with rfl | rfl | rfl <;> simp only [holds_int, holds_long, holds_llong] at ha hb ⊢
  · exact bitwise64_int f hf a b ha.1 ha.2 hb.1 hb.2
  · exact ⟨BitVec.le_toInt _, BitVec.toInt_le⟩
  · exact ⟨BitVec.le_toInt _, BitVec.toInt_le⟩

theorem SL.holds_mono {s t : CTy} (hs : SL s) (ht : SL t) (hr : s.rank ≤ t.rank) {v : Int}
    (h : s.holds v = true) : t.holds v = true := by
  rcases hs with rfl | rfl | rfl <;> rcases ht with rfl | rfl | rfl <;>
    simp only [holds_int, holds_long, holds_llong, CTy.rank] at h hr ⊢ <;> omega

theorem SL.uac {ta tb : CTy} (hta : SL ta) (htb : SL tb) {a b : Int} (ha : ta.holds a = true) (hb : tb.holds b = true) :
    SL (uacInt ta tb) ∧ (uacInt ta tb).holds a = true ∧ (uacInt ta tb).holds b = true := by
  rw [uacInt_of_signed_eq (hta.signed_eq.trans htb.signed_eq.symm)]
  split
  · next h => exact ⟨htb, hta.holds_mono htb (Nat.le_of_lt h) ha, hb⟩
  · next h => exact ⟨hta, ha, htb.holds_mono hta (Nat.le_of_not_lt h) hb⟩

theorem SL.arith_agree {T : CTy} (hT : SL T) {r : Int} {t : CTy} {v : Int}
    (h : (if T.holds r = true then CRes.val (.int T r) else .ub) = .val (.int t v)) :
    Outcome.ok (.int (wrap64 r)) = .ok (.int v) := by
  split at h
  · next hr =>
    cases h
    rw [wrap64_eq r (hT.i64 hr).1 (hT.i64 hr).2]
  · cases h

theorem SL.bitwise_agree {T : CTy} (hT : SL T) (f : ∀ {w}, BitVec w → BitVec w → BitVec w)
    (hf : ∀ x y : BitVec 32, (f x y).signExtend 64 = f (x.signExtend 64) (y.signExtend 64))
    {a b : Int} (ha : T.holds a = true) (hb : T.holds b = true) {t : CTy} {v : Int}
    (h : CRes.val (.int T (convInt T (f (BitVec.ofInt 64 a) (BitVec.ofInt 64 b)).toInt)) = .val (.int t v)) :
    Outcome.ok (.int (f (BitVec.ofInt 64 a) (BitVec.ofInt 64 b)).toInt) = .ok (.int v) := by
  rw [hT.convInt_eq (hT.holds_bitwise f hf ha hb)] at h
  cases h
  rfl

theorem intBin_agree {op : BinOp} {ta tb : CTy} {va vb : Int} {t : CTy} {v : Int}
    (hop : isCexprBinOp op = true) (hta : SL ta) (htb : SL tb)
    (ha : ta.holds va = true) (hb : tb.holds vb = true)
    (h : cIntBin op ta tb va vb = .val (.int t v)) : cexprIntBin op va vb = .ok (.int v) := by
  obtain ⟨hT, hTa, hTb⟩ := SL.uac hta htb ha hb
  have h64 := hta.bits_le  -- for the shifts: amount < bits ≤ 64
  cases op <;> simp only [isCexprBinOp, Bool.false_eq_true] at hop <;>
    simp only [cIntBin, hta.promote_eq, htb.promote_eq, hT.signed_eq, hT.convInt_eq hTa, hT.convInt_eq hTb,
      hta.signed_eq, hta.convInt_eq ha, if_true, true_and, Int.ofNat_eq_natCast, ub_ite_eq_val] at h
  case mul | add | sub => exact hT.arith_agree h
  case div =>
    simp only [cexprIntBin, h.1, if_false]
    exact hT.arith_agree h.2
  case rem =>
    simp only [cexprIntBin, h.1, if_false]
    exact hT.arith_agree h.2.2
  case shl =>
    have hb64 : vb % 64 = vb := by omega
    simp only [cexprIntBin, hb64]
    exact hta.arith_agree h.2.2
  case shr =>
    obtain ⟨hr, h⟩ := h
    cases h
    have hb64 : vb % 64 = vb := by omega
    simp only [cexprIntBin, hb64]
  case band => exact hT.bitwise_agree (· &&& ·) (fun _ _ => BitVec.signExtend_and) hTa hTb h
  case bxor => exact hT.bitwise_agree (· ^^^ ·) (fun _ _ => BitVec.signExtend_xor) hTa hTb h
  case bor => exact hT.bitwise_agree (· ||| ·) (fun _ _ => BitVec.signExtend_or) hTa hTb h

end BindgenModel.CExpr

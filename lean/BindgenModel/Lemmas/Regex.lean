import BindgenModel.Model.Regex
/-! Language semantics of the regex model, correctness of the derivative matcher, and the
meaning of `^(p)$` under the `regex` crate's unanchored search.  The end ties `searchMatches`
(run only in the witness `C09_prefix_not_matched`) to the same semantics. -/
namespace BindgenModel.Regex

inductive Lang : Re → List Char → Prop
  | eps : Lang .eps []
  | cls {n : Bool} {rs : List (Nat × Nat)} {c : Char} : clsMatches n rs c = true → Lang (.cls n rs) [c]
  | cat {a b : Re} {s t : List Char} : Lang a s → Lang b t → Lang (.cat a b) (s ++ t)
  | altL {a b : Re} {s : List Char} : Lang a s → Lang (.alt a b) s
  | altR {a b : Re} {s : List Char} : Lang b s → Lang (.alt a b) s
  | starNil {a : Re} : Lang (.star a) []
  | starCons {a : Re} {s t : List Char} : Lang a s → Lang (.star a) t → Lang (.star a) (s ++ t)

theorem lang_none {s : List Char} : Lang .none s ↔ False := ⟨nofun, False.elim⟩

theorem lang_eps {s : List Char} : Lang .eps s ↔ s = [] := by
  constructor
  · intro h
    cases h
    rfl
  · rintro rfl
    exact Lang.eps

theorem lang_cls {n : Bool} {rs : List (Nat × Nat)} {s : List Char} :
    Lang (.cls n rs) s ↔ ∃ c, s = [c] ∧ clsMatches n rs c = true := by
  constructor
  · intro h
    cases h with
    | cls hm => exact ⟨_, rfl, hm⟩
  · rintro ⟨c, rfl, hm⟩
    exact Lang.cls hm

theorem lang_cat {a b : Re} {u : List Char} :
    Lang (.cat a b) u ↔ ∃ s t, u = s ++ t ∧ Lang a s ∧ Lang b t := by
  constructor
  · intro h
    cases h with
    | cat h1 h2 => exact ⟨_, _, rfl, h1, h2⟩
  · rintro ⟨s, t, rfl, h1, h2⟩
    exact Lang.cat h1 h2

theorem lang_alt {a b : Re} {u : List Char} : Lang (.alt a b) u ↔ Lang a u ∨ Lang b u := by
  constructor
  · intro h
    cases h with
    | altL h => exact Or.inl h
    | altR h => exact Or.inr h
  · exact fun h => h.elim Lang.altL Lang.altR

theorem mkCat_iff (a b : Re) (u : List Char) : Lang (mkCat a b) u ↔ Lang (.cat a b) u := by
  fun_cases mkCat a b
  · simp only [lang_cat, lang_none, false_and, and_false, exists_false]
  · rw [lang_cat]
    constructor
    · exact fun h => ⟨[], u, rfl, Lang.eps, h⟩
    · rintro ⟨s, t, rfl, h1, h2⟩
      rw [lang_eps.mp h1]
      exact h2
  · exact Iff.rfl

theorem mkAlt_iff (a b : Re) (u : List Char) : Lang (mkAlt a b) u ↔ Lang (.alt a b) u := by
  fun_cases mkAlt a b
  · simp only [lang_alt, lang_none, false_or]
  · simp only [lang_alt, lang_none, or_false]
  · exact Iff.rfl

theorem nullable_iff (r : Re) : nullable r = true ↔ Lang r [] := by
  induction r with
  | none => exact ⟨nofun, nofun⟩
  | eps => exact ⟨fun _ => Lang.eps, fun _ => rfl⟩
  | cls _ _ => exact ⟨nofun, nofun⟩
  | cat a b iha ihb =>
    -- the empty word splits into two empty words only
    simp only [nullable, Bool.and_eq_true, iha, ihb, lang_cat, List.nil_eq_append_iff, and_assoc, exists_and_left,
      exists_eq_left]
  | alt a b iha ihb => rw [nullable, Bool.or_eq_true, iha, ihb, lang_alt]
  | star a _ => exact ⟨fun _ => Lang.starNil, fun _ => rfl⟩

theorem lang_cls_cons {n : Bool} {rs : List (Nat × Nat)} {c : Char} {s : List Char} :
    Lang (.cls n rs) (c :: s) ↔ s = [] ∧ clsMatches n rs c = true := by
  simp only [lang_cls, List.cons.injEq, and_assoc, eq_comm (a := c), exists_eq_left]

theorem lang_cat_cons {a b : Re} {c : Char} {s : List Char} :
    Lang (.cat a b) (c :: s) ↔
      (∃ s1 t, s = s1 ++ t ∧ Lang a (c :: s1) ∧ Lang b t) ∨ (Lang a [] ∧ Lang b (c :: s)) := by
  rw [lang_cat]
  constructor
  · rintro ⟨s1, t, hu, h1, h2⟩
    rcases List.cons_eq_append_iff.mp hu with ⟨rfl, rfl⟩ | ⟨s1', rfl, rfl⟩
    · exact Or.inr ⟨h1, h2⟩
    · exact Or.inl ⟨s1', t, rfl, h1, h2⟩
  · rintro (⟨s1, t, rfl, h1, h2⟩ | ⟨h1, h2⟩)
    · exact ⟨c :: s1, t, rfl, h1, h2⟩
    · exact ⟨[], c :: s, rfl, h1, h2⟩

theorem lang_star_cons {a : Re} {c : Char} {s : List Char} :
    Lang (.star a) (c :: s) ↔ ∃ s1 t, s = s1 ++ t ∧ Lang a (c :: s1) ∧ Lang (.star a) t := by
  constructor
  · intro h
    generalize hr : Re.star a = r at h
    generalize hu : c :: s = u at h
    induction h with
    | starCons h1 h2 _ ih2 =>
      cases hr
      rcases List.cons_eq_append_iff.mp hu with ⟨rfl, rfl⟩ | ⟨s1', rfl, rfl⟩
      · exact ih2 rfl rfl  -- an empty first iteration is skipped
      · exact ⟨s1', _, rfl, h1, h2⟩
    | starNil => cases hu
    | _ => cases hr
  · rintro ⟨s1, t, rfl, h1, h2⟩
    exact Lang.starCons h1 h2

theorem deriv_iff (c : Char) (r : Re) (s : List Char) : Lang (deriv c r) s ↔ Lang r (c :: s) := by
  induction r generalizing s with
  | none => simp only [deriv, lang_none]
  | eps => simp only [deriv, lang_none, lang_eps, reduceCtorEq]
  | cls n rs =>
    rw [deriv, lang_cls_cons]
    split
    · next h => simp only [lang_eps, h, and_true]
    · next h => simp only [lang_none, h, Bool.false_eq_true, and_false]
  | cat a b iha ihb =>
    have hcat : Lang (mkCat (deriv c a) b) s ↔ ∃ s1 t, s = s1 ++ t ∧ Lang a (c :: s1) ∧ Lang b t := by
      simp only [mkCat_iff, lang_cat, iha]
    rw [deriv, lang_cat_cons, ← nullable_iff]
    split
    · next hn => simp only [mkAlt_iff, lang_alt, hcat, ihb, hn, true_and]
    · next hn => simp only [hcat, hn, Bool.false_eq_true, false_and, or_false]
  | alt a b iha ihb => simp only [deriv, mkAlt_iff, lang_alt, iha, ihb]
  | star a iha => simp only [deriv, mkCat_iff, lang_cat, lang_star_cons, iha]

theorem matches_iff (r : Re) (s : List Char) : «matches» r s = true ↔ Lang r s := by
  induction s generalizing r with
  | nil => exact nullable_iff r
  | cons c t ih => rw [«matches», ih, deriv_iff]

/-! ### anchors and unanchored search (the `regex` crate's `is_match`) -/

/-- patterns with the two anchors `build_inner` adds -/
inductive ReA where
  | lift (r : Re)
  | bos
  | eos
  | cat (a b : ReA)

/-- `MatchA r pre mid post`: inside the haystack `pre ++ mid ++ post`, `r` matches the span `mid`. -/
inductive MatchA : ReA → List Char → List Char → List Char → Prop
  | lift {r : Re} {pre mid post : List Char} : Lang r mid → MatchA (.lift r) pre mid post
  | bos {post : List Char} : MatchA .bos [] [] post
  | eos {pre : List Char} : MatchA .eos pre [] []
  | cat {a b : ReA} {pre m1 m2 post : List Char} :
      MatchA a pre m1 (m2 ++ post) → MatchA b (pre ++ m1) m2 post → MatchA (.cat a b) pre (m1 ++ m2) post

/-- `Regex::is_match`: some span of the haystack matches -/
def IsMatch (r : ReA) (s : List Char) : Prop :=
  ∃ pre mid post, s = pre ++ mid ++ post ∧ MatchA r pre mid post

/-- `format!("^({item})$")` -/
def anchored (p : Re) : ReA := .cat .bos (.cat (.lift p) .eos)

theorem anchored_whole_name (p : Re) (s : List Char) : IsMatch (anchored p) s ↔ Lang p s := by
  constructor
  · rintro ⟨pre, mid, post, hs, hm⟩
    -- the only derivation: `^` at an empty prefix, `$` at an empty suffix, `p` on what lies between
    cases hm with | cat h1 h2 =>
    cases h1
    cases h2 with | cat h3 h4 =>
    cases h4
    cases h3 with | lift hl =>
    simpa [hs] using hl
  · intro h
    exact ⟨[], _, [], by simp, MatchA.cat MatchA.bos (MatchA.cat (MatchA.lift h) MatchA.eos)⟩

theorem matches_eq_anchored (p : Re) (s : List Char) : «matches» p s = true ↔ IsMatch (anchored p) s := by
  rw [matches_iff, anchored_whole_name]

theorem lang_star_any (s : List Char) : Lang (.star anyChar) s := by
  induction s with
  | nil => exact Lang.starNil
  | cons c t ih =>
    have h : Lang anyChar [c] := Lang.cls (by simp [clsMatches, inRanges])
    have := Lang.starCons h ih
    simpa using this

theorem searchMatches_iff (p : Re) (s : List Char) :
    searchMatches p s = true ↔ ∃ pre mid post, s = pre ++ mid ++ post ∧ Lang p mid := by
  unfold searchMatches
  rw [matches_iff]
  constructor
  · intro h
    obtain ⟨pre, rest, rfl, _, h2⟩ := lang_cat.mp h
    obtain ⟨mid, post, rfl, h3, _⟩ := lang_cat.mp h2
    exact ⟨pre, mid, post, by simp, h3⟩
  · rintro ⟨pre, mid, post, rfl, h⟩
    have := Lang.cat (lang_star_any pre) (Lang.cat h (lang_star_any post))
    simpa using this

theorem matchA_lift {r : Re} {pre mid post : List Char} : MatchA (.lift r) pre mid post ↔ Lang r mid := by
  constructor
  · intro h
    cases h with
    | lift h => exact h
  · exact MatchA.lift

theorem isMatch_lift_iff (p : Re) (s : List Char) : IsMatch (.lift p) s ↔ searchMatches p s = true := by
  simp only [searchMatches_iff, IsMatch, matchA_lift]

end BindgenModel.Regex

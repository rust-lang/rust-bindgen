import BindgenModel.Lemmas.Post
/-! # Lemmas about the recursion into inline modules (tree level). -/
set_option linter.unusedSectionVars false
namespace BindgenModel.Post
open BindgenModel.Generated

variable {α : Type} [DecidableEq α]

/-- `treeItem L`, which rewrites only the inside of inline modules, is such a map (`treeItem_shape`) -/
def ShapePreserving (g : Item α → Item α) : Prop :=
  ∀ x, (g x).rank = x.rank ∧ (g x).asForeign = x.asForeign ∧ (x.isForeign = true → g x = x)

theorem ShapePreserving.isForeign {g : Item α → Item α} (h : ShapePreserving g) (x : Item α) :
    (g x).isForeign = x.isForeign := by
  rw [isForeign_eq_isSome, (h x).2.1, isForeign_eq_isSome]

theorem others_map {g : Item α → Item α} (h : ShapePreserving g) (l : List (Item α)) :
    others (l.map g) = (others l).map g := by
  have : (fun x => !x.isForeign) ∘ g = fun x : Item α => !x.isForeign := funext fun x => by
    rw [Function.comp, h.isForeign]
  rw [others, List.filter_map, this, others]

theorem blocksOf_map {g : Item α → Item α} (h : ShapePreserving g) (l : List (Item α)) :
    blocksOf (l.map g) = blocksOf l := by
  have : Item.asForeign ∘ g = Item.asForeign := funext fun x => (h x).2.1
  rw [blocksOf, List.filterMap_map, this, blocksOf]

theorem map_foreign_map {g : Item α → Item α} (h : ShapePreserving g) (bs : List (Foreign α)) :
    (bs.map Item.foreign).map g = bs.map Item.foreign := by
  rw [List.map_map]
  exact List.map_congr_left fun b _ => (h (.foreign b)).2.2 rfl

def Natural (L : List (Item α) → List (Item α)) : Prop :=
  ∀ g, ShapePreserving g → ∀ l, L (l.map g) = (L l).map g

theorem mergeLevel_natural (fields) : Natural (mergeLevel (α := α) fields) := by
  intro g hg l
  rw [mergeLevel_eq, mergeLevel_eq, others_map hg, blocksOf_map hg, List.map_append, map_foreign_map hg]

theorem sortLevel_natural : Natural (sortLevel (α := α)) := by
  intro g hg l
  have : (Item.rank ∘ g) = (Item.rank : Item α → Nat) := funext fun x => (hg x).1
  rw [sortLevel, stableSort_map, this, sortLevel]

theorem natural_id : Natural (fun l : List (Item α) => l) := fun _ _ _ => rfl

theorem Natural.comp {L₁ L₂ : List (Item α) → List (Item α)} (h₁ : Natural L₁) (h₂ : Natural L₂) :
    Natural (L₂ ∘ L₁) := by
  intro g hg l
  simp only [Function.comp, h₁ g hg, h₂ g hg]

/-! `treeItem L (.module h is) = .module h (treeFile L is)`, so each fact about trees is proved for a file
whose items have it (`…_of`), then for items by `Item.induct`, then for files. -/

theorem Item.induct {motive : Item α → Prop} (plain : ∀ k t, motive (.plain k t))
    (foreign : ∀ f, motive (.foreign f))
    (module : ∀ h is, (∀ x ∈ is, motive x) → motive (.module h is)) (x : Item α) : motive x :=
  Item.rec (motive_2 := fun l => ∀ x ∈ l, motive x) plain foreign module (fun _ h => nomatch h)
    (fun _ _ hx hxs _ hy => (List.mem_cons.mp hy).elim (· ▸ hx) (hxs _)) x

theorem treeList_eq_map (L : List (Item α) → List (Item α)) (l : List (Item α)) :
    treeList L l = l.map (treeItem L) := by
  induction l with
  | nil => rfl
  | cons x xs ih => rw [treeList, ih, List.map_cons]

theorem treeItem_shape (L : List (Item α) → List (Item α)) : ShapePreserving (treeItem L) := by
  intro x
  cases x with
  | module _ _ => exact ⟨rfl, rfl, fun h => nomatch h⟩
  | _ => exact ⟨rfl, rfl, fun _ => rfl⟩

/-- the code's order: this level first, then the inline modules -/
theorem treeFile_code_order {L : List (Item α) → List (Item α)} (hL : Natural L) (items : List (Item α)) :
    treeFile L items = (L items).map (treeItem L) := by
  rw [treeFile, treeList_eq_map, hL _ (treeItem_shape L)]

theorem treeFile_fuse_of {L₁ L₂ : List (Item α) → List (Item α)} (h₁ : Natural L₁) (items : List (Item α))
    (ih : ∀ x ∈ items, treeItem L₂ (treeItem L₁ x) = treeItem (L₂ ∘ L₁) x) :
    treeFile L₂ (treeFile L₁ items) = treeFile (L₂ ∘ L₁) items := by
  simp only [treeFile, Function.comp, treeList_eq_map]
  rw [← h₁ _ (treeItem_shape L₂), List.map_map, List.map_congr_left (f := treeItem L₂ ∘ treeItem L₁) ih]

theorem treeItem_fuse {L₁ L₂ : List (Item α) → List (Item α)} (h₁ : Natural L₁) (x : Item α) :
    treeItem L₂ (treeItem L₁ x) = treeItem (L₂ ∘ L₁) x := by
  induction x using Item.induct with
  | plain _ _ => rfl
  | foreign _ => rfl
  | module h is ih => exact congrArg (Item.module h) (treeFile_fuse_of h₁ is ih)

theorem treeFile_fuse {L₁ L₂ : List (Item α) → List (Item α)} (h₁ : Natural L₁) (items : List (Item α)) :
    treeFile L₂ (treeFile L₁ items) = treeFile (L₂ ∘ L₁) items :=
  treeFile_fuse_of h₁ items fun x _ => treeItem_fuse h₁ x

theorem treeFile_idem {L : List (Item α) → List (Item α)} (hn : Natural L) (hi : ∀ l, L (L l) = L l)
    (items : List (Item α)) : treeFile L (treeFile L items) = treeFile L items := by
  have : L ∘ L = L := funext hi
  rw [treeFile_fuse hn, this]

theorem treeFile_id_of (items : List (Item α)) (ih : ∀ x ∈ items, treeItem (fun l => l) x = x) :
    treeFile (fun l => l) items = items := by
  rw [treeFile, treeList_eq_map, List.map_congr_left ih, List.map_id']

theorem treeItem_id (x : Item α) : treeItem (fun l => l) x = x := by
  induction x using Item.induct with
  | plain _ _ => rfl
  | foreign _ => rfl
  | module h is ih => exact congrArg (Item.module h) (treeFile_id_of is ih)

theorem treeFile_id (items : List (Item α)) : treeFile (fun l => l) items = items :=
  treeFile_id_of items fun x _ => treeItem_id x

/-- what the property counts: plain items and inline-module headers with their module path, and
foreign items with path, block attributes, ABI and (`g` of) unsafety -/
inductive Entry (α : Type) where
  | plain (path : List α) (kind : ItemKind) (text : α)
  | tuple (path : List α) (t : Tuple α)
  | modHead (path : List α) (head : α)
deriving DecidableEq, Repr

mutual
def invItem (g : Bool → Bool) (path : List α) : Item α → List (Entry α)
  | .plain k t => [.plain path k t]
  | .foreign f => (f.tuplesG g).map (.tuple path)
  | .module h is => .modHead path h :: invList g (path ++ [h]) is
def invList (g : Bool → Bool) (path : List α) : List (Item α) → List (Entry α)
  | [] => []
  | x :: xs => invItem g path x ++ invList g path xs
end

theorem invList_eq_flatMap (g) (path : List α) (l : List (Item α)) :
    invList g path l = l.flatMap (invItem g path) := by
  induction l with
  | nil => rfl
  | cons x xs ih => rw [invList, ih, List.flatMap_cons]

theorem invList_append (g) (path : List α) (a b : List (Item α)) :
    invList g path (a ++ b) = invList g path a ++ invList g path b := by
  simp only [invList_eq_flatMap, List.flatMap_append]

theorem invList_perm (g) (path : List α) {a b : List (Item α)} (h : a.Perm b) :
    (invList g path a).Perm (invList g path b) := by
  simp only [invList_eq_flatMap]
  exact h.flatMap_right _

theorem invList_map_foreign (g) (path : List α) (bs : List (Foreign α)) :
    invList g path (bs.map Item.foreign) = (bs.flatMap (Foreign.tuplesG g)).map (.tuple path) := by
  induction bs with
  | nil => rfl
  | cons b bs ih => rw [List.map_cons, invList, invItem, ih, List.flatMap_cons, List.map_append]

theorem mergeLevel_inv_perm (fields g) (path : List α) (l : List (Item α))
    (h : Agree fields g (blocksOf l)) :
    (invList g path (mergeLevel fields l)).Perm (invList g path l) := by
  rw [mergeLevel_eq, invList_append, invList_map_foreign]
  refine (((mergeBlocks_tuplesG_perm fields g _ h).map _).append_left _).trans ?_
  rw [← invList_map_foreign, ← invList_append]
  exact invList_perm g path (others_append_blocks_perm l)

theorem sortLevel_inv_perm (g) (path : List α) (l : List (Item α)) :
    (invList g path (sortLevel l)).Perm (invList g path l) :=
  invList_perm g path (stableSort_perm _ l)

/-! ## the hypothesis at every level of the tree -/

mutual
def AgreeItem (fields : List MergeField) (g : Bool → Bool) : Item α → Prop
  | .module _ is => Agree fields g (blocksOf is) ∧ AgreeList fields g is
  | _ => True
def AgreeList (fields : List MergeField) (g : Bool → Bool) : List (Item α) → Prop
  | [] => True
  | x :: xs => AgreeItem fields g x ∧ AgreeList fields g xs
end

def AgreeFile (fields : List MergeField) (g : Bool → Bool) (items : List (Item α)) : Prop :=
  Agree fields g (blocksOf items) ∧ AgreeList fields g items

theorem agreeList_iff {fields g} {l : List (Item α)} :
    AgreeList fields g l ↔ ∀ x ∈ l, AgreeItem fields g x := by
  induction l with
  | nil => simp [AgreeList]
  | cons x xs ih => simp [AgreeList, ih]

theorem agreeItem_of_forall {fields g} (h : ∀ bs : List (Foreign α), Agree fields g bs) (x : Item α) :
    AgreeItem fields g x := by
  induction x using Item.induct with
  | plain _ _ => trivial
  | foreign _ => trivial
  | module _ is ih => exact ⟨h _, agreeList_iff.mpr ih⟩

theorem agreeFile_of_forall {fields g} (h : ∀ bs : List (Foreign α), Agree fields g bs) (items : List (Item α)) :
    AgreeFile fields g items :=
  ⟨h _, agreeList_iff.mpr fun x _ => agreeItem_of_forall h x⟩

theorem agree_of_keyEq {fields g} (ha : MergeField.attrs ∈ fields) (hb : MergeField.abi ∈ fields)
    (hg : ∀ a b : Foreign α, keyEq fields a b = true → g a.unsafety = g b.unsafety) (bs : List (Foreign α)) :
    Agree fields g bs :=
  fun a _ b _ k => ⟨keyEq_attrs ha k, keyEq_abi hb k, hg a b k⟩

theorem mixedUnsafetyBlocks_eq_false {bs : List (Foreign α)} : mixedUnsafetyBlocks bs = false ↔
    bs.Pairwise fun b c => b.attrs = c.attrs → b.abi = c.abi → b.unsafety = c.unsafety := by
  induction bs with
  | nil => exact iff_of_true rfl .nil
  | cons b bs ih =>
    simp only [mixedUnsafetyBlocks, Bool.or_eq_false_iff, List.any_eq_false, Bool.and_eq_true, beq_iff_eq,
      bne_iff_ne, ne_eq, not_and, Decidable.not_not, and_imp, ih, List.pairwise_cons]

theorem agree_of_not_mixed {fields} (ha : MergeField.attrs ∈ fields) (hb : MergeField.abi ∈ fields)
    (bs : List (Foreign α)) (h : mixedUnsafetyBlocks bs = false) : Agree fields id bs := by
  have hp := mixedUnsafetyBlocks_eq_false.mp h
  intro x hx y hy k
  have ka := keyEq_attrs ha k
  have kb := keyEq_abi hb k
  -- the relation of `hp` is reflexive and symmetric, so it holds of any two blocks, in either order
  exact ⟨ka, kb, hp.forall_of_forall_of_flip (fun _ _ _ _ => rfl) (hp.imp fun r a b => (r a.symm b.symm).symm)
    hx hy ka kb⟩

theorem mixedUnsafetyList_eq_any (l : List (Item α)) : mixedUnsafetyList l = l.any mixedUnsafetyItem := by
  induction l with
  | nil => rfl
  | cons x xs ih => rw [mixedUnsafetyList, ih, List.any_cons]

theorem agreeFile_of_not_mixed_of {fields} (ha : MergeField.attrs ∈ fields) (hb : MergeField.abi ∈ fields)
    (items : List (Item α)) (ih : ∀ x ∈ items, mixedUnsafetyItem x = false → AgreeItem fields id x)
    (h : mixedUnsafety items = false) : AgreeFile fields id items := by
  rw [mixedUnsafety, mixedUnsafetyList_eq_any, Bool.or_eq_false_iff, List.any_eq_false] at h
  exact ⟨agree_of_not_mixed ha hb _ h.1, agreeList_iff.mpr fun x hx => ih x hx (Bool.eq_false_iff.mpr (h.2 x hx))⟩

theorem agreeItem_of_not_mixed {fields} (ha : MergeField.attrs ∈ fields) (hb : MergeField.abi ∈ fields)
    (x : Item α) (h : mixedUnsafetyItem x = false) : AgreeItem fields id x := by
  induction x using Item.induct with
  | plain _ _ => trivial
  | foreign _ => trivial
  | module _ is ih => exact agreeFile_of_not_mixed_of ha hb is ih h

theorem agreeFile_of_not_mixed {fields} (ha : MergeField.attrs ∈ fields) (hb : MergeField.abi ∈ fields)
    (items : List (Item α)) (h : mixedUnsafety items = false) : AgreeFile fields id items :=
  agreeFile_of_not_mixed_of ha hb items (fun x _ => agreeItem_of_not_mixed ha hb x) h

def LevelPerm (fields : List MergeField) (g : Bool → Bool) (L : List (Item α) → List (Item α)) : Prop :=
  ∀ (path : List α) (l : List (Item α)), Agree fields g (blocksOf l) →
    (invList g path (L l)).Perm (invList g path l)

theorem treeFile_inv_perm_of {fields g} {L : List (Item α) → List (Item α)} (hL : LevelPerm fields g L)
    (path : List α) (items : List (Item α)) (hb : Agree fields g (blocksOf items))
    (ih : ∀ x ∈ items, (invItem g path (treeItem L x)).Perm (invItem g path x)) :
    (invList g path (treeFile L items)).Perm (invList g path items) := by
  have hb' : blocksOf (treeList L items) = blocksOf items := by
    rw [treeList_eq_map, blocksOf_map (treeItem_shape L)]
  refine (hL _ _ (hb'.symm ▸ hb)).trans ?_
  clear hb hb'
  induction items with
  | nil => exact .refl _
  | cons x xs ihl =>
    exact (ih x List.mem_cons_self).append (ihl fun y hy => ih y (List.mem_cons_of_mem _ hy))

theorem treeItem_inv_perm {fields g} {L : List (Item α) → List (Item α)} (hL : LevelPerm fields g L)
    (path : List α) (x : Item α) (h : AgreeItem fields g x) :
    (invItem g path (treeItem L x)).Perm (invItem g path x) := by
  induction x using Item.induct generalizing path with
  | plain _ _ => exact .refl _
  | foreign _ => exact .refl _
  | module hd is ih =>
    exact (treeFile_inv_perm_of hL _ is h.1 fun x hx => ih x hx _ (agreeList_iff.mp h.2 x hx)).cons _

theorem treeFile_inv_perm {fields g} {L : List (Item α) → List (Item α)} (hL : LevelPerm fields g L)
    (path : List α) (items : List (Item α)) (h : AgreeFile fields g items) :
    (invList g path (treeFile L items)).Perm (invList g path items) :=
  treeFile_inv_perm_of hL path items h.1 fun x hx => treeItem_inv_perm hL path x (agreeList_iff.mp h.2 x hx)

end BindgenModel.Post

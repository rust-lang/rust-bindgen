import BindgenModel.Lemmas.StructLayoutPacked
/-!
# C02, layers 2, 4 (plain members) and 5 (bit-field units): non-packed structs

The tracker of a non-packed struct (`NInv`) asks for a padding field when the gap in front of a member reaches the
member's alignment; the blob still ends at the member (`padField_lands`).  The three layers are instances of
`unpacked_struct`.

Nothing of `StructLayoutPacked` is used here: it is imported because Lean derives the auxiliary declarations of the
matcher shared by `packedFieldsFrom` and `plainFieldsFromA` at the first `fun_induction`, in whichever module asks
first, and two modules that each derived them cannot be imported together.
-/
namespace BindgenModel.C02
open BindgenModel.Layout BindgenModel.StructLayout BindgenModel.CompCodegen

def plainFieldsFromA : Nat → List CField → Bool
  | _, [] => true
  | cur, .data ty (some off) :: fs =>
    match ty.layout with
    | some l =>
      (l.align == 1 || l.align == 2 || l.align == 4 || (l.align % 8 == 0 && decide (0 < l.align))) &&
      l.size % l.align == 0 && off % 8 == 0 && (off / 8) % l.align == 0 && decide (cur ≤ off / 8) &&
      arrayHackInactive ty && plainFieldsFromA (off / 8 + l.size) fs
    | none => false
  | _, _ => false

def ClangPlainA (c : CAgg) : Bool :=
  !c.isUnion && !c.packedAttr && !c.hasOwnVirtual && !c.hasVtablePtr && c.bases.isEmpty &&
  !c.isOpaque && !c.forwardDecl && !c.zeroSized && !c.fields.isEmpty &&
  match c.layout with
  | some l => decide (0 < l.align) && fieldAlignsLe l.align c.fields && plainFieldsFromA 0 c.fields &&
              l.size == alignTo (plainEnd 0 c.fields) l.align
  | none => false

def isPow2 (n : Nat) : Bool := n == 1 || n == 2 || n == 4 || n == 8 || n == 16 || n == 32 || n == 64 || n == 128

/-- Units have alignment 1 and start where the previous field ended (otherwise: region `bitfield_unit_misplaced`). -/
def unitsFieldsFrom : Nat → List CField → Bool
  | _, [] => true
  | cur, .data ty (some off) :: fs =>
    match ty.layout with
    | some l =>
      (l.align == 1 || l.align == 2 || l.align == 4 || (l.align % 8 == 0 && decide (0 < l.align))) &&
      l.size % l.align == 0 && off % 8 == 0 && (off / 8) % l.align == 0 && decide (cur ≤ off / 8) &&
      arrayHackInactive ty && unitsFieldsFrom (off / 8 + l.size) fs
    | none => false
  | cur, .unit _ l _ (some s) :: fs => l.align == 1 && s == 8 * cur && unitsFieldsFrom (cur + l.size) fs
  | _, _ => false

def unitsEnd : Nat → List CField → Nat
  | cur, [] => cur
  | cur, .data ty (some off) :: fs =>
    match ty.layout with
    | some l => unitsEnd (off / 8 + l.size) fs
    | none => unitsEnd cur fs
  | cur, .unit _ l _ _ :: fs => unitsEnd (cur + l.size) fs
  | cur, _ :: fs => unitsEnd cur fs

def ClangUnits (c : CAgg) : Bool :=
  !c.isUnion && !c.packedAttr && !c.hasOwnVirtual && !c.hasVtablePtr && c.bases.isEmpty &&
  !c.isOpaque && !c.forwardDecl && !c.zeroSized && !c.fields.isEmpty &&
  match c.layout with
  | some l => isPow2 l.align && fieldAlignsLe l.align c.fields && unitsFieldsFrom 0 c.fields &&
              l.size == alignTo (unitsEnd 0 c.fields) l.align
  | none => false

/-- The byte offsets at which libclang's numbers put the units, by `nth`. -/
def cUnitOffsets : List CField → List (Nat × Nat)
  | [] => []
  | .unit n _ _ (some s) :: fs => (n, s / 8) :: cUnitOffsets fs
  | _ :: fs => cUnitOffsets fs

/-- `padInexactFrom` skips a bit-field unit without advancing its running end offset, so after a unit it tests the wrong
gap; this one advances.  Without units they agree (`unitsFieldsFrom_of_plainA`). -/
def padInexactFromU (force : Bool) : Nat → List CField → Bool
  | _, [] => false
  | cur, .data ty (some off) :: fs =>
    match ty.layout with
    | some l =>
      let pb := off / 8 - cur
      let pa := min l.align maxGuaranteedAlign
      (!force && decide (pb ≠ 0) && (decide (pb ≥ l.align) || decide (l.align > maxGuaranteedAlign)) &&
        decide (pa > 4) && decide (pb % pa ≠ 0)) || padInexactFromU force (off / 8 + l.size) fs
    | none => padInexactFromU force cur fs
  | cur, .unit _ l _ _ :: fs => padInexactFromU force (cur + l.size) fs
  | cur, _ :: fs => padInexactFromU force cur fs

def padInexactAt (force : Bool) (a pb : Nat) : Bool :=
  !force && decide (pb ≠ 0) && (decide (pb ≥ a) || decide (a > maxGuaranteedAlign)) &&
    decide (min a maxGuaranteedAlign > 4) && decide (pb % min a maxGuaranteedAlign ≠ 0)

theorem padInexactFromU_data (force : Bool) (cur : Nat) (ty : FieldTy) (off : Nat) (fs : List CField) (fl : Layout)
    (hl : ty.layout = some fl) :
    padInexactFromU force cur (.data ty (some off) :: fs) =
      (padInexactAt force fl.align (off / 8 - cur) || padInexactFromU force (off / 8 + fl.size) fs) := by
  simp only [padInexactFromU, hl, padInexactAt]

structure NInv (t : Tracker) (force : Bool) (cur : Nat) : Prop where
  np : t.isPacked = false
  nu : t.compIsUnion = false
  fp : t.forcePadding = force
  off : t.latestOffset = cur
  al : ∀ pl, t.latestFieldLayout = some pl → alignTo cur pl.align = cur
  bf : t.lastFieldWasBitfield = true → ∀ pl, t.latestFieldLayout = some pl → pl.align = 1

theorem alignToLatestField_noop {t : Tracker} {force : Bool} {cur : Nat} (h : NInv t force cur) (new : Layout)
    (hn : 0 < new.align) : t.alignToLatestField new = (t, false) := by
  unfold Tracker.alignToLatestField
  rw [if_neg (by simp [h.np])]
  split
  · rfl
  · rename_i l hl
    -- no merge into a preceding unit: a unit has alignment 1, and `l.size % 1 = 0 < new.align`
    have hneg : ¬ (t.lastFieldWasBitfield = true ∧ new.align ≤ l.size % max 1 l.align ∧
        new.size ≤ l.size % max 1 l.align) := by
      intro ⟨hb, h2, _⟩
      rw [h.bf hb l hl, Nat.max_self, Nat.mod_one] at h2
      omega
    have hpb : t.paddingBytes l = 0 := by
      unfold Tracker.paddingBytes
      rw [h.off, h.al l hl, Nat.sub_self]
    rw [if_neg hneg, hpb]
    rfl

theorem sawFieldWithLayout_unpacked {t : Tracker} {force : Bool} {cur : Nat} (h : NInv t force cur)
    (fl : Layout) (off : Nat) (ha : 0 < fl.align)
    (hO : (off / 8) % fl.align = 0) (hc : cur ≤ off / 8) :
    t.sawFieldWithLayout fl (some off) =
      if (force = true ∨ off / 8 - cur ≥ fl.align ∨ fl.align > 8) ∧ off / 8 - cur ≠ 0 then
        let r := (afterField t fl (off / 8)).paddingField
          { size := off / 8 - cur, align := if force then 1 else min fl.align 8 }
        (r.1, some r.2)
      else (afterField t fl (off / 8), none) := by
  have hnoop := alignToLatestField_noop h fl ha
  obtain ⟨np, nu, fp, hoff, al, bf⟩ := h
  unfold Tracker.sawFieldWithLayout
  rw [hnoop]
  have hpb : (if off / 8 > cur then off / 8 - cur else if fl.align = 0 then 0 else t.paddingBytes fl)
      = off / 8 - cur := by
    split
    · rfl
    · have he : off / 8 = cur := by omega
      rw [if_neg (by omega)]
      unfold Tracker.paddingBytes
      rw [hoff, alignTo_of_mod_eq_zero _ _ (he ▸ hO)]
      omega
  have hadd : cur + (off / 8 - cur) = off / 8 := by omega
  simp only [nu, np, fp, hoff, Bool.false_eq_true, false_or, or_false, Bool.not_false, if_true, if_false, hpb,
    maxGuaranteedAlign, hadd, afterField, Tracker.paddingField]
  by_cases hcond : (force = true ∨ off / 8 - cur ≥ fl.align ∨ fl.align > 8) ∧ off / 8 - cur ≠ 0
  · simp only [if_pos hcond]
  · simp only [if_neg hcond]

theorem NInv.afterField {t : Tracker} {force : Bool} {cur : Nat} (h : NInv t force cur) (fl : Layout) (O : Nat)
    (hO : O % fl.align = 0) (hs : fl.size % fl.align = 0) :
    NInv (afterField t fl O) force (O + fl.size) := by
  refine ⟨h.np, h.nu, h.fp, rfl, ?_, nofun⟩
  intro pl hpl
  cases hpl
  apply alignTo_of_mod_eq_zero
  rw [Nat.add_mod, hO, hs]
  rfl

theorem NInv.paddingField {t : Tracker} {force : Bool} {cur : Nat} (h : NInv t force cur) (l : Layout) :
    NInv (t.paddingField l).1 force cur :=
  ⟨h.np, h.nu, h.fp, h.off, h.al, h.bf⟩

/-- For `pa` = 8 `blob` rounds the size up, not down: hence the condition (region `pad_blob_inexact`). -/
theorem padField_lands (k cur O pa ma : Nat)
    (hpa : pa = 1 ∨ pa = 2 ∨ pa = 4 ∨ (pa = 8 ∧ (O - cur) % 8 = 0)) (hO : O % pa = 0) (hc : cur ≤ O) :
    Placed none cur ma [padField { idx := k, layout := { size := O - cur, align := pa } }] O (max ma pa) [] [] := by
  obtain ⟨s1, s2, s3⟩ := blob_floor { size := O - cur, align := pa } false hpa
  have h := Placed.single none cur ma (padField { idx := k, layout := { size := O - cur, align := pa } })
    (by simpa [padField, blobField] using s3)
  rw [show effAlign none (padField { idx := k, layout := { size := O - cur, align := pa } }).align = pa from s2,
    show (padField { idx := k, layout := { size := O - cur, align := pa } }).size = pa * ((O - cur) / pa) from s1,
    alignTo_add_floor cur O pa (by omega) hO hc] at h
  exact h

theorem padAlign_dvd (force : Bool) (a pb : Nat) (ha : a = 1 ∨ a = 2 ∨ a = 4 ∨ (a % 8 = 0 ∧ 0 < a))
    (hpb : pb ≠ 0) (hc : force = true ∨ pb ≥ a ∨ a > 8) (hex : padInexactAt force a pb = false) :
    ∃ pa, (if force = true then 1 else min a 8) = pa ∧ pa ∣ a ∧
      (pa = 1 ∨ pa = 2 ∨ pa = 4 ∨ (pa = 8 ∧ pb % 8 = 0)) := by
  cases force with
  | true => exact ⟨1, rfl, Nat.one_dvd a, Or.inl rfl⟩
  | false =>
    rcases ha with rfl | rfl | rfl | ⟨h8, hp⟩
    · exact ⟨1, rfl, Nat.dvd_refl _, Or.inl rfl⟩
    · exact ⟨2, rfl, Nat.dvd_refl _, Or.inr (Or.inl rfl)⟩
    · exact ⟨4, rfl, Nat.dvd_refl _, Or.inr (Or.inr (Or.inl rfl))⟩
    · have hmin : min a 8 = 8 := by omega
      have hc' : pb ≥ a ∨ a > 8 := hc.resolve_left nofun
      -- every other conjunct of the test holds, so the last one fails
      have hd : pb % 8 = 0 := by
        simpa [padInexactAt, maxGuaranteedAlign, hmin, hpb, hc'] using hex
      exact ⟨8, by rw [hmin]; rfl, Nat.dvd_of_mod_eq_zero h8, Or.inr (Or.inr (Or.inr ⟨rfl, hd⟩))⟩

theorem sawField_unpacked {t : Tracker} {force : Bool} {cur : Nat} (h : NInv t force cur) (idx : Nat)
    (ty : FieldTy) (fl : Layout) (off : Nat)
    (hl : ty.layout = some fl) (hh : arrayHackInactive ty = true)
    (ha : fl.align = 1 ∨ fl.align = 2 ∨ fl.align = 4 ∨ (fl.align % 8 = 0 ∧ 0 < fl.align))
    (hs : fl.size % fl.align = 0) (hO : (off / 8) % fl.align = 0) (hc : cur ≤ off / 8)
    (hex : padInexactAt force fl.align (off / 8 - cur) = false) (ma : Nat) :
    ∃ t1 pad, t.sawField ty (some off) = (t1, pad) ∧ NInv t1 force (off / 8 + fl.size) ∧
      t1.lastFieldWasBitfield = false ∧ t1.maxFieldAlign = max t.maxFieldAlign fl.align ∧
      Placed none cur ma (padList pad ++ [memberField false idx ty]) (off / 8 + fl.size) (max ma fl.align)
        [(idx, off / 8)] [] := by
  have hpos : 0 < fl.align := by omega
  rw [sawField_eq_withLayout t ty fl _ hl hh, sawFieldWithLayout_unpacked h fl off hpos hO hc]
  have hinv := h.afterField fl (off / 8) hO hs
  by_cases hcond : (force = true ∨ off / 8 - cur ≥ fl.align ∨ fl.align > 8) ∧ off / 8 - cur ≠ 0
  · rw [if_pos hcond]
    obtain ⟨pa, hpa, hdvd, hpa'⟩ := padAlign_dvd force fl.align (off / 8 - cur) ha hcond.2 hcond.1 hex
    rw [hpa]
    have hle : pa ≤ fl.align := Nat.le_of_dvd hpos hdvd
    have hP := padField_lands t.paddingCount cur (off / 8) pa ma hpa'
      (Nat.mod_eq_zero_of_dvd (Nat.dvd_trans hdvd (Nat.dvd_of_mod_eq_zero hO))) hc
    have hM := Placed.member none (off / 8) (max ma pa) idx ty fl hl hpos
    simp only [effAlign, alignTo_of_mod_eq_zero _ _ hO, Nat.max_assoc, Nat.max_eq_right hle] at hM
    exact ⟨_, _, rfl, hinv.paddingField _, rfl, Nat.max_eq_left (Nat.le_trans hle (Nat.le_max_right _ _)),
      hP.append hM⟩
  · rw [if_neg hcond]
    -- no padding field: the gap is below the member's alignment, `repr(C)` closes it by aligning
    have hplace : alignTo cur fl.align = off / 8 := by
      apply alignTo_eq_of _ _ _ hO hc
      cases force <;> simp at hcond <;> omega
    have hM := Placed.member none cur ma idx ty fl hl hpos
    simp only [effAlign, hplace] at hM
    exact ⟨_, _, rfl, hinv, rfl, rfl, hM⟩

theorem sawBitfieldUnit_unpacked {t : Tracker} {force : Bool} {cur : Nat} (h : NInv t force cur) (l : Layout)
    (ha : l.align = 1) :
    NInv (t.sawBitfieldUnit l) force (cur + l.size) ∧
      (t.sawBitfieldUnit l).maxFieldAlign = max t.maxFieldAlign 1 := by
  have hnoop := alignToLatestField_noop h l (by omega)
  unfold Tracker.sawBitfieldUnit
  rw [hnoop]
  obtain ⟨np, nu, fp, hoff, al, bf⟩ := h
  refine ⟨⟨np, nu, fp, ?_, ?_, ?_⟩, ?_⟩
  · simp only [hoff]
  · intro pl hpl
    cases hpl
    rw [ha]
    exact alignTo_of_mod_eq_zero _ _ (Nat.mod_one _)
  · intro _ pl hpl
    cases hpl
    exact ha
  · simp only [ha]

def hasUnits (fs : List CField) : Bool :=
  fs.any fun f => match f with | .unit _ _ _ _ => true | _ => false

theorem hasBitfields_eq (c : CAgg) : c.hasBitfields = hasUnits c.fields := rfl

theorem emitFields_unpacked (force : Bool) (B : Nat) (fs : List CField) (idx : Nat) (t : Tracker) (cur : Nat)
    (hinv : NInv t force cur) (hp : unitsFieldsFrom cur fs = true) (hpi : padInexactFromU force cur fs = false)
    (hle : fieldAlignsLe B fs = true) (hB : t.maxFieldAlign ≤ B) :
    ∃ tE ff, emitFields false idx t fs = (tE, ff) ∧ NInv tE force (unitsEnd cur fs) ∧
      tE.maxFieldAlign ≤ B ∧ (fs ≠ [] ∨ 1 ≤ t.maxFieldAlign → 1 ≤ tE.maxFieldAlign) ∧
      (hasUnits fs = false → t.lastFieldWasBitfield = false → tE.lastFieldWasBitfield = false) ∧
      Placed none cur (max 1 t.maxFieldAlign) ff (unitsEnd cur fs) (max 1 tE.maxFieldAlign)
        (cOffsets idx fs) (cUnitOffsets fs) := by
  fun_induction unitsFieldsFrom cur fs generalizing idx t with
  | case1 =>
    exact ⟨t, [], rfl, hinv, hB, fun h => h.resolve_left (fun h => h rfl), fun _ h => h, Placed.nil _ _ _⟩
  | case2 cur ty off fs fl hl ih =>  -- a data member
    simp only [Bool.and_eq_true, Bool.or_eq_true, beq_iff_eq, decide_eq_true_eq, or_assoc] at hp
    obtain ⟨⟨⟨⟨⟨⟨ha, hs⟩, _⟩, hO⟩, hc⟩, hh⟩, hp'⟩ := hp
    rw [padInexactFromU_data force cur ty off fs fl hl, Bool.or_eq_false_iff] at hpi
    obtain ⟨hle1, hle'⟩ := (fieldAlignsLe_cons B _ fs).mp hle
    have hpos : 0 < fl.align := by omega
    obtain ⟨t1, pad, hsaw, hinv1, hnb1, hm1, hpl1⟩ :=
      sawField_unpacked hinv idx ty fl off hl hh ha hs hO hc hpi.1 (max 1 t.maxFieldAlign)
    rw [Nat.max_assoc, ← hm1] at hpl1
    obtain ⟨tE, ff, hE, hinvE, hBE, h1E, hbE, hpl⟩ :=
      ih (idx + 1) t1 hinv1 hp' hpi.2 hle' (hm1 ▸ Nat.max_le.mpr ⟨hB, hle1 fl hl⟩)
    have hend : unitsEnd cur (.data ty (some off) :: fs) = unitsEnd (off / 8 + fl.size) fs := by
      simp only [unitsEnd, hl]
    rw [hend]
    refine ⟨tE, padList pad ++ memberField false idx ty :: ff, by rw [emitFields_data, hsaw, hE], hinvE, hBE,
      fun _ => h1E (Or.inr (hm1 ▸ Nat.le_trans hpos (Nat.le_max_right _ _))), fun hu _ => hbE hu hnb1, ?_⟩
    rw [List.append_cons]
    exact hpl1.append hpl
  | case3 => cases hp
  | case4 cur n l be s fs ih =>  -- a bit-field unit
    simp only [Bool.and_eq_true, beq_iff_eq] at hp
    obtain ⟨⟨ha, hs⟩, hp'⟩ := hp
    simp only [padInexactFromU] at hpi
    obtain ⟨hle1, hle'⟩ := (fieldAlignsLe_cons B _ fs).mp hle
    obtain ⟨hinv1, hm1⟩ := sawBitfieldUnit_unpacked hinv l ha
    have hm : max (max 1 t.maxFieldAlign) 1 = max 1 (t.sawBitfieldUnit l).maxFieldAlign := by
      rw [hm1, Nat.max_assoc]
    obtain ⟨tE, ff, hE, hinvE, hBE, h1E, -, hpl⟩ :=
      ih (idx + 1) (t.sawBitfieldUnit l) hinv1 hp' hpi hle' (hm1 ▸ Nat.max_le.mpr ⟨hB, ha ▸ hle1 l rfl⟩)
    have hU := Placed.single none cur (max 1 t.maxFieldAlign) { name := .unit n, size := l.size, align := 1 } rfl
    simp only [effAlign, alignTo_of_mod_eq_zero _ _ (Nat.mod_one _), hm] at hU
    refine ⟨tE, _, by rw [emitFields_unit, hE], hinvE, hBE, fun _ => h1E (Or.inr (hm1 ▸ Nat.le_max_right _ _)),
      nofun, ?_⟩
    simp only [cUnitOffsets, hs, Nat.mul_div_cancel_left cur (by decide : 0 < 8)]
    exact hU.append hpl
  | case5 => cases hp

theorem eq_two_pow_of_isPow2 (A : Nat) (h : isPow2 A = true) : ∃ j, A = 2 ^ j := by
  simp only [isPow2, Bool.or_eq_true, beq_iff_eq] at h
  rcases h with ((((((h | h) | h) | h) | h) | h) | h) | h
  · exact ⟨0, h⟩
  · exact ⟨1, h⟩
  · exact ⟨2, h⟩
  · exact ⟨3, h⟩
  · exact ⟨4, h⟩
  · exact ⟨5, h⟩
  · exact ⟨6, h⟩
  · exact ⟨7, h⟩

/-- The blob's alignment `g` (`Layout::for_size`) is a power of two dividing the gap and smaller than the record's
alignment, a power of two as well; so `g` divides the record's size, hence the end of the unit: the blob starts there. -/
theorem padStruct_unit {t : Tracker} {force : Bool} {e : Nat} (h : NInv t force e)
    (hb : t.lastFieldWasBitfield = true) (L : Layout) (hA : isPow2 L.align = true)
    (hs : L.size = alignTo e L.align) (hB : t.maxFieldAlign ≤ L.align) :
    ∃ t3 pad c', t.padStruct L = (t3, pad) ∧ t.maxFieldAlign ≤ t3.maxFieldAlign ∧ t3.maxFieldAlign ≤ L.align ∧
      Placed none e t.maxFieldAlign (padList pad) c' t3.maxFieldAlign [] [] ∧ alignTo c' L.align = L.size := by
  obtain ⟨j, hj⟩ := eq_two_pow_of_isPow2 L.align hA
  have hApos : 0 < L.align := by rw [hj]; exact Nat.pow_pos (by decide)
  have h2 : e ≤ L.size := hs ▸ alignTo_ge e L.align
  by_cases hpb : L.size - e = 0
  · refine ⟨t, none, e, ?_, Nat.le_refl _, hB, Placed.nil _ _ _, hs.symm⟩
    unfold Tracker.padStruct
    rw [h.off, if_neg (Nat.not_lt.mpr h2)]
    simp only [hpb, if_true]
  · have hps : t.padStruct L = ((t.paddingField (forSize t.ptrSize (L.size - e))).1,
        some (t.paddingField (forSize t.ptrSize (L.size - e))).2) := by
      unfold Tracker.padStruct
      rw [h.off, if_neg (Nat.not_lt.mpr h2)]
      simp only [hpb, if_false, h.np, hb, true_and, true_or, if_true, Bool.false_eq_true]
      cases hlf : t.latestFieldLayout with
      | none => simp
      | some x =>
        simp only [h.bf hb x hlf]
        exact if_pos (Or.inr (Nat.pos_of_ne_zero hpb))
    obtain ⟨k, hk, hd⟩ := forSize_pow2 t.ptrSize (L.size - e)
    have hsize : (forSize t.ptrSize (L.size - e)).size = L.size - e := rfl
    generalize forSize t.ptrSize (L.size - e) = fl at hps hsize hk
    have hgpos : 0 < fl.align := by rw [hk]; exact Nat.pow_pos (by decide)
    obtain ⟨hgA, hge⟩ : fl.align ∣ L.align ∧ e % fl.align = 0 := by
      rw [hk, hj]
      rw [hs, hj] at hpb hd
      exact pow2_gap_dvd e k j hd hpb
    have hg3 : fl.align ≠ 3 := by
      rw [hk]
      cases k with
      | zero => decide
      | succ k' => rw [Nat.pow_succ]; omega
    have hmax : max fl.align 1 = fl.align := Nat.max_eq_left hgpos
    obtain ⟨-, b2, b3, b4, -⟩ := blobField_spec (.padding t.paddingCount) fl hg3 (by rw [hmax, hsize, hk]; exact hd)
    have hpl := Placed.single none e t.maxFieldAlign _ b4
    simp only [effAlign, b2, b3, hmax, hsize, alignTo_of_mod_eq_zero _ _ hge, Nat.add_sub_cancel' h2] at hpl
    exact ⟨_, _, L.size, hps, Nat.le_max_left _ _, Nat.max_le.mpr ⟨hB, Nat.le_of_dvd hApos hgA⟩, hpl,
      by rw [hs, alignTo_idem]⟩

theorem unpacked_tail {t : Tracker} {force : Bool} {e : Nat} (h : NInv t force e) (l : Layout)
    (hs : l.size = alignTo e l.align) (hm : 1 ≤ t.maxFieldAlign) (hB : t.maxFieldAlign ≤ l.align)
    (hU : t.lastFieldWasBitfield = true → force = false ∧ isPow2 l.align = true) :
    ∃ t2 p2 t3 p3 c', t.addTailPadding l = (t2, p2) ∧ t2.padStruct l = (t3, p3) ∧
      t.maxFieldAlign ≤ t3.maxFieldAlign ∧ t3.maxFieldAlign ≤ l.align ∧
      Placed none e t.maxFieldAlign (padList p2 ++ padList p3) c' t3.maxFieldAlign [] [] ∧
      alignTo c' l.align = l.size := by
  cases hb : t.lastFieldWasBitfield with
  | false =>
    obtain ⟨t2, p2, c', hT, hP, hm2, -, hpl, hsz'⟩ :=
      struct_tail t l none t.maxFieldAlign hb (Nat.le_trans hm hB) (h.off ▸ hs) rfl hm
    refine ⟨t2, p2, t2, none, c', hT, hP, Nat.le_of_eq hm2.symm, hm2 ▸ hB, ?_, hsz'⟩
    rw [padList_none, List.append_nil, hm2, ← h.off]
    exact hpl
  | true =>
    obtain ⟨hf, hp2⟩ := hU hb
    subst hf
    obtain ⟨t3, p3, c', hP, hm3, hB3, hpl, hsz'⟩ := padStruct_unit h hb l hp2 hs hB
    refine ⟨t, none, t3, p3, c', ?_, hP, hm3, hB3, hpl, hsz'⟩
    unfold Tracker.addTailPadding
    rw [h.fp]
    rfl

theorem placeFields_max (x : Nat) (fs : List RField) (cur ma : Nat) :
    placeFields none cur (max ma x) fs =
      ((placeFields none cur ma fs).1, (placeFields none cur ma fs).2.1, max (placeFields none cur ma fs).2.2 x) := by
  induction fs generalizing cur ma with
  | nil => rfl
  | cons f fs ih =>
    rw [placeFields_cons, placeFields_cons]
    rw [Nat.max_right_comm, ih]

theorem unpacked_struct (o : Opts) (c : CAgg) (l : Layout) (hc : Simple c l) (hiu : c.isUnion = false)
    (hpa : c.packedAttr = false) (hov : c.hasOwnVirtual = false) (hne : c.fields ≠ [])
    (hle : fieldAlignsLe l.align c.fields = true)
    (hpf : unitsFieldsFrom 0 c.fields = true) (hsz : l.size = alignTo (unitsEnd 0 c.fields) l.align)
    (hpi : padInexactFromU o.forcePadding 0 c.fields = false)
    (hU : hasUnits c.fields = true → o.forcePadding = false ∧ o.u64Align = 8 ∧ isPow2 l.align = true) :
    ∃ r offs, emit o c = some r ∧ reprC r = some { size := l.size, align := l.align, offsets := offs } ∧
      uo offs = cOffsets 0 c.fields ∧ un offs = cUnitOffsets c.fields := by
  have hpk := isPacked_plain c l hpa hc.lay hov hle
  obtain ⟨tE, ff, hE, hinvE, hBE, h1E, hbE, hpl⟩ :=
    emitFields_unpacked o.forcePadding l.align c.fields 0 (tracker0 o c) 0
      ⟨hpk, hiu, rfl, rfl, nofun, nofun⟩ hpf hpi hle (Nat.zero_le _)
  have h1E := h1E (Or.inl hne)
  rw [show max 1 (tracker0 o c).maxFieldAlign = 1 from rfl, Nat.max_eq_right h1E] at hpl
  obtain ⟨t2, p2, t3, p3, c', hT, hP, hm3, hB3, hpl2, hsz'⟩ :=
    unpacked_tail hinvE l hsz h1E hBE fun hb => by
      cases hu : hasUnits c.fields
      · rw [hbE hu rfl] at hb
        cases hb
      · exact ⟨(hU hu).1, (hU hu).2.2⟩
  obtain ⟨offs, hplace, huo, hun, hfs⟩ := hpl.append hpl2
  rw [List.append_nil] at huo hun
  rw [← List.append_assoc] at hplace hfs
  -- explicit alignment is never wanted as `packed`: `1 ≤ max_field_align ≤ l.align`
  have h12 : (t3.requiresExplicitAlign l && decide (l.align = 1)) = false ∧
      (t3.requiresExplicitAlign l && !decide (l.align = 1)) = t3.requiresExplicitAlign l := by
    cases hR : t3.requiresExplicitAlign l
    · exact ⟨rfl, rfl⟩
    · have := (requiresExplicitAlign_iff t3 l).mp hR
      have : l.align ≠ 1 := by omega
      simp [this]
  obtain ⟨h1, h2⟩ := h12
  rw [emit_struct o c l hc hiu hE hT hP]
  simp only [hpk, h1, h2, Bool.or_self, Bool.false_and, Bool.false_eq_true, if_false]
  cases hfront : (t3.requiresExplicitAlign l && c.hasBitfields && decide (l.align ≤ 8))
  · simp only [Bool.false_eq_true, if_false, hfs, Bool.not_false, Bool.and_true]
    exact ⟨_, offs, rfl, reprC_eq false none _ _ l hplace (Or.inl rfl)
      (explicitAlign_hA hB3 requiresExplicitAlign_false) hsz', huo, hun⟩
  · simp only [Bool.and_eq_true, decide_eq_true_eq] at hfront
    obtain ⟨⟨hR, hhb⟩, h8⟩ := hfront
    rw [hasBitfields_eq] at hhb
    obtain ⟨-, hu64, hp2⟩ := hU hhb
    have h248 : l.align = 2 ∨ l.align = 4 ∨ l.align = 8 := by
      rw [hR] at h1
      simp only [isPow2, Bool.or_eq_true, beq_iff_eq] at hp2
      simp only [Bool.true_and, decide_eq_false_iff_not] at h1
      omega
    rw [alignFieldFor_eq o l.align hu64 h248]
    simp only [if_true, List.any_cons, hfs, Bool.not_true, Bool.and_false, Bool.false_eq_true, if_false]
    refine ⟨_, (.bindgenAlign, 0) :: offs, rfl, reprC_eq false none none _ l ?_ (Or.inl rfl)
      (Or.inl ⟨rfl, rfl⟩) hsz', huo, hun⟩
    simp only [Bool.false_eq_true, if_false, placeFields_cons, effAlign, alignTo_zero_left, Nat.add_zero,
      placeFields_max, hplace, Nat.max_eq_right hB3]

theorem unitsFieldsFrom_of_plainA (force : Bool) (cur : Nat) (fs : List CField) (h : plainFieldsFromA cur fs = true) :
    unitsFieldsFrom cur fs = true ∧ unitsEnd cur fs = plainEnd cur fs ∧
      padInexactFromU force cur fs = padInexactFrom force cur fs ∧ hasUnits fs = false := by
  fun_induction plainFieldsFromA cur fs with
  | case1 => exact ⟨rfl, rfl, rfl, rfl⟩
  | case2 cur ty off fs l hl ih =>
    simp only [Bool.and_eq_true] at h
    obtain ⟨i1, i2, i3, i4⟩ := ih h.2
    refine ⟨?_, ?_, ?_, i4⟩
    · simp only [unitsFieldsFrom, hl, Bool.and_eq_true]
      exact ⟨h.1, i1⟩
    · simp only [unitsEnd, plainEnd, hl, i2]
    · simp only [padInexactFromU, padInexactFrom, hl, i3]
  | case3 => cases h
  | case4 => cases h

theorem plain_struct_any_align (o : Opts) (c : CAgg) (h : ClangPlainA c = true) (hp : padInexact o c = false) :
    ∃ r l, emit o c = some r ∧ reprC r = some l ∧
      (∀ cl, c.layout = some cl → l.size = cl.size ∧ l.align = cl.align) ∧
      l.userOffsets = cOffsets 0 c.fields := by
  unfold ClangPlainA at h
  cases hl : c.layout with
  | none => simp [hl] at h
  | some l =>
    simp only [hl, Bool.and_eq_true, Bool.not_eq_true', decide_eq_true_eq, beq_iff_eq,
      List.isEmpty_eq_false_iff, List.isEmpty_iff] at h
    obtain ⟨⟨⟨⟨⟨⟨⟨⟨⟨hiu, hpa⟩, hov⟩, hvt⟩, hbs⟩, hop⟩, hfw⟩, hzs⟩, hne⟩, ⟨⟨-, hle⟩, hpf⟩, hsz⟩ := h
    obtain ⟨hpfU, hend, hpiU, hnu⟩ := unitsFieldsFrom_of_plainA o.forcePadding 0 c.fields hpf
    obtain ⟨r, offs, h1, h2, h3, -⟩ := unpacked_struct o c l ⟨hvt, hbs, hop, hfw, hzs, hl⟩ hiu hpa hov hne hle
      hpfU (hend ▸ hsz) (hpiU ▸ hp) (fun hu => absurd hu (by rw [hnu]; decide))
    refine ⟨r, _, h1, h2, fun cl hcl => ?_, h3⟩
    cases hcl
    exact ⟨rfl, rfl⟩

theorem padInexactFrom_force (cur : Nat) (fs : List CField) : padInexactFrom true cur fs = false := by
  fun_induction padInexactFrom true cur fs with
  | case1 => rfl
  | case2 cur ty off fs l hl pb pa ih => simp only [Bool.not_true, Bool.false_and, Bool.false_or, ih]
  | case3 cur ty off fs hl ih => exact ih
  | case4 cur f fs h1 ih => exact ih

theorem padInexact_force (o : Opts) (c : CAgg) (hf : o.forcePadding = true) : padInexact o c = false := by
  unfold padInexact
  rw [hf]
  exact padInexactFrom_force 0 c.fields

theorem plainFieldsFromA_of_plain (cur : Nat) (fs : List CField) (h : plainFieldsFrom cur fs = true) :
    plainFieldsFromA cur fs = true := by
  fun_induction plainFieldsFrom cur fs with
  | case1 => rfl
  | case2 cur ty off fs l hl ih =>
    simp only [Bool.and_eq_true, Bool.or_eq_true, beq_iff_eq, decide_eq_true_eq] at h
    simp only [plainFieldsFromA, hl, Bool.and_eq_true, Bool.or_eq_true, beq_iff_eq, decide_eq_true_eq]
    obtain ⟨⟨⟨⟨⟨⟨ha, hs⟩, h8⟩, hO⟩, hc⟩, hh⟩, hp'⟩ := h
    exact ⟨⟨⟨⟨⟨⟨ha.imp_right fun (h : l.align = 8) => by rw [h]; decide, hs⟩, h8⟩, hO⟩, hc⟩, hh⟩, ih hp'⟩
  | case3 => cases h
  | case4 => cases h

theorem ClangPlainA_of_plain (c : CAgg) (h : ClangPlain c = true) : ClangPlainA c = true := by
  unfold ClangPlain at h
  unfold ClangPlainA
  cases hl : c.layout with
  | none => simp [hl] at h
  | some l =>
    simp only [hl, Bool.and_eq_true] at h ⊢
    exact ⟨h.1, ⟨h.2.1.1, plainFieldsFromA_of_plain 0 c.fields h.2.1.2⟩, h.2.2⟩

theorem plain_struct (o : Opts) (c : CAgg) (h : ClangPlain c = true) (hp : padInexact o c = false) :
    ∃ r l, emit o c = some r ∧ reprC r = some l ∧
      (∀ cl, c.layout = some cl → l.size = cl.size ∧ l.align = cl.align) ∧
      l.userOffsets = cOffsets 0 c.fields :=
  plain_struct_any_align o c (ClangPlainA_of_plain c h) hp

theorem explicit_padding_irrelevant (o : Opts) (c : CAgg) (h : ClangPlain c = true)
    (hp : padInexact { o with forcePadding := false } c = false) :
    ∃ r₁ l₁ r₂ l₂, emit { o with forcePadding := true } c = some r₁ ∧ reprC r₁ = some l₁ ∧
      emit { o with forcePadding := false } c = some r₂ ∧ reprC r₂ = some l₂ ∧
      l₁.size = l₂.size ∧ l₁.align = l₂.align ∧ l₁.userOffsets = l₂.userOffsets := by
  obtain ⟨r₁, l₁, h1, h2, h3, h4⟩ :=
    plain_struct { o with forcePadding := true } c h (padInexact_force _ c rfl)
  obtain ⟨r₂, l₂, g1, g2, g3, g4⟩ := plain_struct { o with forcePadding := false } c h hp
  cases hl : c.layout with
  | none => simp [ClangPlain, hl] at h
  | some cl =>
    exact ⟨r₁, l₁, r₂, l₂, h1, h2, g1, g2, (h3 cl hl).1.trans (g3 cl hl).1.symm,
      (h3 cl hl).2.trans (g3 cl hl).2.symm, h4.trans g4.symm⟩

def padInexactU (o : Opts) (c : CAgg) : Bool := padInexactFromU o.forcePadding 0 c.fields

theorem unitOffset_of_mem_un (l : RLayout) (hnd : ((un l.offsets).map Prod.fst).Nodup) :
    ∀ n off, (n, off) ∈ un l.offsets → l.unitOffset n = some off := by
  unfold RLayout.unitOffset
  generalize l.offsets = offs at hnd ⊢
  induction offs with
  | nil => intro n off h; simp [un] at h
  | cons p r ih =>
    obtain ⟨m, o⟩ := p
    intro n off hmem
    cases m with
    | unit i =>
      rw [un_cons_unit, List.map_cons, List.nodup_cons] at hnd
      rw [un_cons_unit, List.mem_cons] at hmem
      rw [List.findSome?_cons]
      by_cases hni : i = n
      · subst hni
        simp only [beq_self_eq_true, if_true]
        rcases hmem with hmem | hmem
        · cases hmem
          rfl
        · exact absurd (List.mem_map_of_mem (f := Prod.fst) hmem) hnd.1
      · have : (FName.unit i == FName.unit n) = false := by simp [hni]
        simp only [this, Bool.false_eq_true, if_false]
        rcases hmem with hmem | hmem
        · cases hmem
          exact absurd rfl hni
        · exact ih hnd.2 n off hmem
    | _ =>
      have hnd' : ((un r).map Prod.fst).Nodup := hnd
      have hmem' : (n, off) ∈ un r := hmem
      rw [List.findSome?_cons]
      exact ih hnd' n off hmem'

/-- A 4-byte unit, then an `__int128`: the gap is 12 (padding blob of size 16), `padInexact` looks at the gap 16. -/
def withUnitsCexPad : CAgg :=
  { layout := some { size := 32, align := 16 },
    fields := [.unit 1 { size := 4, align := 1 } 30 (some 0),
               .data { layout := some { size := 16, align := 16 } } (some 128)] }

def withUnitsCexDup : CAgg :=
  { layout := some { size := 2, align := 1 },
    fields := [.unit 1 { size := 1, align := 1 } 3 (some 0), .unit 1 { size := 1, align := 1 } 3 (some 8)] }

theorem with_units_cex_dup :
    ClangUnits withUnitsCexDup = true ∧ padInexact {} withUnitsCexDup = false ∧
      padInexactU {} withUnitsCexDup = false ∧
      (1, 1) ∈ cUnitOffsets withUnitsCexDup.fields ∧
      ((emit {} withUnitsCexDup).bind reprC).map (fun l => l.unitOffset 1) = some (some 0) := by decide

/-- False without `hpu` (`C02_with_units_needs_padInexactU`), and without `hnd`: `RLayout.unitOffset` returns the first
unit tagged `n` (`with_units_cex_dup`). -/
theorem with_units (o : Opts) (c : CAgg) (h : ClangUnits c = true)
    (hf : o.forcePadding = false) (hu : o.u64Align = 8)
    (hpu : padInexactU o c = false) (hnd : ((cUnitOffsets c.fields).map Prod.fst).Nodup) :
    ∃ r l, emit o c = some r ∧ reprC r = some l ∧
      (∀ cl, c.layout = some cl → l.size = cl.size ∧ l.align = cl.align) ∧
      l.userOffsets = cOffsets 0 c.fields ∧
      (∀ n off, (n, off) ∈ cUnitOffsets c.fields → l.unitOffset n = some off) := by
  unfold ClangUnits at h
  cases hl : c.layout with
  | none => simp [hl] at h
  | some l =>
    simp only [hl, Bool.and_eq_true, Bool.not_eq_true', beq_iff_eq,
      List.isEmpty_eq_false_iff, List.isEmpty_iff] at h
    obtain ⟨⟨⟨⟨⟨⟨⟨⟨⟨hiu, hpa⟩, hov⟩, hvt⟩, hbs⟩, hop⟩, hfw⟩, hzs⟩, hne⟩, ⟨⟨hal, hle⟩, hpf⟩, hsz⟩ := h
    obtain ⟨r, offs, h1, h2, h3, h4⟩ := unpacked_struct o c l ⟨hvt, hbs, hop, hfw, hzs, hl⟩ hiu hpa hov hne hle
      hpf hsz hpu (fun _ => ⟨hf, hu, hal⟩)
    refine ⟨r, _, h1, h2, fun cl hcl => ?_, h3, fun n off hmem => ?_⟩
    · cases hcl
      exact ⟨rfl, rfl⟩
    · rw [← h4] at hmem hnd
      exact unitOffset_of_mem_un ⟨_, _, offs⟩ hnd n off hmem

end BindgenModel.C02

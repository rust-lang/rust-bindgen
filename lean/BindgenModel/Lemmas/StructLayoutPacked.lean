import BindgenModel.Lemmas.StructLayout
/-!
# C02, layer 3: packed structs

The tracker of a packed struct never asks for padding (`PInv`): the field loop emits the members alone, and
`repr(C, packed(N))` places them where the C compiler did.
-/
namespace BindgenModel.C02
open BindgenModel.Layout BindgenModel.StructLayout BindgenModel.CompCodegen

structure PInv (t : Tracker) (cur : Nat) (l : Layout) : Prop where
  pk : t.isPacked = true
  nu : t.compIsUnion = false
  nb : t.lastFieldWasBitfield = false
  off : t.latestOffset = cur
  ktl : t.knownTypeLayout = some l

theorem sawFieldWithLayout_packed {t : Tracker} {cur : Nat} {l : Layout}
    (h : PInv t cur l) (fl : Layout) (off : Nat) (hO : off / 8 = alignTo cur (min fl.align l.align)) :
    t.sawFieldWithLayout fl (some off) = (afterField t fl (off / 8), none) := by
  obtain ⟨pk, nu, nb, hoff, ktl⟩ := h
  have hge := alignTo_ge cur (min fl.align l.align)
  -- the alignment `padding_bytes` is asked about: the member's, capped by the record's
  have hal : (if fl.align < l.align then { l with align := fl.align } else l : Layout).align = min fl.align l.align := by
    split
    · simp only
      omega
    · omega
  have hpb : (if off / 8 > cur then off / 8 - cur else if fl.align = 0 then 0 else
      t.paddingBytes (if fl.align < l.align then { l with align := fl.align } else l)) = off / 8 - cur := by
    split
    · rfl
    · rename_i hle
      split
      · exact (Nat.sub_eq_zero_of_le (Nat.le_of_not_gt hle)).symm
      · unfold Tracker.paddingBytes
        rw [hoff, hal, ← hO]
  have hadd : cur + (off / 8 - cur) = off / 8 := by omega
  unfold Tracker.sawFieldWithLayout Tracker.alignToLatestField
  simp only [pk, if_true, nu, ktl, hoff, Bool.false_eq_true, false_or, or_false, Bool.not_true, if_false, hpb, hadd,
    afterField]

theorem PInv.afterField {t : Tracker} {cur : Nat} {l : Layout} (h : PInv t cur l)
    (fl : Layout) (O : Nat) : PInv (afterField t fl O) (O + fl.size) l :=
  ⟨h.pk, h.nu, rfl, rfl, h.ktl⟩

/-- The two bounds on `max_field_align` are what `packed_struct` needs to know about `requiresExplicitAlign`. -/
theorem emitFields_packed (l : Layout) (fs : List CField) (idx : Nat) (t : Tracker) (cur : Nat)
    (hinv : PInv t cur l) (hp : packedFieldsFrom l.align cur fs = true) :
    ∃ tE ff, emitFields false idx t fs = (tE, ff) ∧ PInv tE (plainEnd cur fs) l ∧
      (fs.all (fun f => match f.layout with | some fl => decide (fl.align < 16) | none => true) = true →
        t.maxFieldAlign < 16 → tE.maxFieldAlign < 16) ∧
      (fs.any (fun f => match f.layout with | some fl => decide (fl.align ≥ l.align) | none => false) = true →
        l.align ≤ tE.maxFieldAlign) ∧
      t.maxFieldAlign ≤ tE.maxFieldAlign ∧ ff.any (·.containsAlign) = false ∧
      Placed (some l.align) cur (max 1 (min t.maxFieldAlign l.align)) ff (plainEnd cur fs)
        (max 1 (min tE.maxFieldAlign l.align)) (cOffsets idx fs) [] := by
  fun_induction packedFieldsFrom l.align cur fs generalizing idx t with
  | case1 => exact ⟨t, [], rfl, hinv, fun _ h => h, by simp, Nat.le_refl _, rfl, Placed.nil _ _ _⟩
  | case2 cur ty off fs fl hl ih =>
    simp only [Bool.and_eq_true, beq_iff_eq, decide_eq_true_eq, Bool.not_eq_true'] at hp
    obtain ⟨⟨⟨⟨⟨ha, _⟩, hO⟩, hh⟩, hca⟩, hp'⟩ := hp
    obtain ⟨tE, ff, hE, hinvE, h16, hge, hmono, hnca, hpl⟩ :=
      ih (idx + 1) (afterField t fl (off / 8)) (hinv.afterField fl (off / 8)) hp'
    have hmf : (afterField t fl (off / 8)).maxFieldAlign = max t.maxFieldAlign fl.align := rfl
    rw [hmf] at hmono h16 hpl
    have hF := Placed.member (some l.align) cur (max 1 (min t.maxFieldAlign l.align)) idx ty fl hl ha
    simp only [effAlign, ← hO, Nat.max_assoc, ← Nat.min_max_distrib_right] at hF
    refine ⟨tE, memberField false idx ty :: ff, ?_, ?_⟩
    · rw [emitFields_data, sawField_eq_withLayout t ty fl _ hl hh, sawFieldWithLayout_packed hinv fl off hO, hE]
      rfl
    · simp only [plainEnd, hl, List.all_cons, List.any_cons, CField.layout, Bool.and_eq_true, Bool.or_eq_true,
        decide_eq_true_eq]
      refine ⟨hinvE, fun h ht => h16 h.2 (Nat.max_lt.mpr ⟨ht, h.1⟩), fun hany => ?_,
        Nat.le_trans (Nat.le_max_left _ _) hmono, by rw [memberField_plain idx ty fl hl ha, hca, hnca]; rfl,
        hF.append hpl⟩
      rcases hany with h1 | h1
      · exact Nat.le_trans (Nat.le_trans h1 (Nat.le_max_right _ _)) hmono
      · exact hge h1
  | case3 => cases hp
  | case4 => cases hp

theorem packed_struct (o : Opts) (c : CAgg) (h : ClangPacked c = true) :
    ∃ r l, emit o c = some r ∧ reprC r = some l ∧
      (∀ cl, c.layout = some cl → l.size = cl.size ∧ l.align = cl.align ∧ r.packed = some cl.align) ∧
      l.userOffsets = cOffsets 0 c.fields := by
  unfold ClangPacked at h
  cases hl : c.layout with
  | none => simp [hl] at h
  | some l =>
    simp only [hl, Bool.and_eq_true, Bool.not_eq_true', decide_eq_true_eq, beq_iff_eq,
      List.isEmpty_eq_false_iff, List.isEmpty_iff, Bool.or_eq_true] at h
    obtain ⟨⟨⟨⟨⟨⟨⟨⟨⟨hiu, -⟩, hvt⟩, hbs⟩, hop⟩, hfw⟩, hzs⟩, -⟩, hpk⟩, ⟨⟨hal, hpf⟩, hsz⟩, hcase⟩ := h
    obtain ⟨tE, ff, hE, hinvE, h16, hge, -, hnca, hpl⟩ :=
      emitFields_packed l c.fields 0 (tracker0 o c) 0
        ⟨hpk, hiu, rfl, rfl, hl⟩ hpf
    -- the members reach the record's alignment: it is 1, or one of them has it
    have hma : max 1 (min tE.maxFieldAlign l.align) = l.align := by
      rcases hcase with h1 | ⟨_, h2⟩
      · omega
      · have := hge h2
        omega
    rw [show (tracker0 o c).maxFieldAlign = 0 from rfl, Nat.zero_min, hma] at hpl
    obtain ⟨t2, p2, c', hT, hP, hm2, hnca2, hpl2, hsz'⟩ :=
      struct_tail tE l (some l.align) l.align hinvE.nb hal (hinvE.off ▸ hsz) (Nat.min_eq_left hal) hal
    rw [hinvE.off] at hpl2
    obtain ⟨offs, hplace, huo, -, hfs⟩ := hpl.append hpl2
    -- explicit alignment is wanted only where `packed` itself provides it
    have hex : (t2.requiresExplicitAlign l && !decide (l.align = 1)) = false := by
      rcases hcase with h1 | ⟨h1, h2⟩
      · simp [h1]
      · have := h16 h1 (Nat.zero_lt_succ _)
        have := hge h2
        unfold Tracker.requiresExplicitAlign
        rw [hm2, if_neg (by omega), if_pos (by omega)]
        rfl
    rw [emit_struct o c l ⟨hvt, hbs, hop, hfw, hzs, hl⟩ hiu hE hT hP]
    simp only [hpk, hex, padList_none, List.append_nil, Bool.true_or, Bool.false_and, Bool.not_false, Bool.and_true,
      if_true, Bool.false_eq_true, if_false, hfs]
    refine ⟨_, _, rfl, reprC_eq false (some l.align) none _ l hplace (Or.inr ⟨rfl, ?_⟩) (Or.inl ⟨rfl, rfl⟩) hsz',
      fun cl hcl => ?_, ?_⟩
    · rw [List.any_append, hnca, hnca2]
      rfl
    · cases hcl
      exact ⟨rfl, rfl, rfl⟩
    · rw [userOffsets_eq, huo, List.append_nil]

end BindgenModel.C02

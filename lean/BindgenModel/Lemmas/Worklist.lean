import BindgenModel.Model.Worklist
/-! Generic theory of the work-list loop: least fixed point, invariant, termination, array refinement. -/
namespace BindgenModel.Worklist

variable {N L : Type} [DecidableEq N] [DecidableEq L]

def Stable (F : Framework N L) (s : N → L) (n : N) : Prop := F.le (F.rule s n) (s n) = true

/-- what an analysis must satisfy: lattice laws, and facts about its rule / dependency tables -/
structure Lawful (F : Framework N L) : Prop where
  le_refl : ∀ a, F.le a a = true
  le_trans : ∀ a b c, F.le a b = true → F.le b c = true → F.le a c = true
  le_antisymm : ∀ a b, F.le a b = true → F.le b a = true → a = b
  join_ub_l : ∀ a b, F.le a (F.join a b) = true
  join_ub_r : ∀ a b, F.le b (F.join a b) = true
  join_lub : ∀ a b c, F.le a c = true → F.le b c = true → F.le (F.join a b) c = true
  rank_strict : ∀ a b, F.le a b = true → a ≠ b → F.rank a < F.rank b
  rank_le : ∀ a, F.rank a ≤ F.height
  reads_only : ∀ s s' n, (∀ m ∈ F.reads n, s m = s' m) → F.rule s n = F.rule s' n
  /-- every node a rule reads re-queues the reader when it changes -/
  reads_deps : ∀ n m, m ∈ F.reads n → n ∈ F.nodes → n ∈ F.deps m
  mono : ∀ s s' n, (∀ m, F.le (s m) (s' m) = true) → F.le (F.rule s n) (F.rule s' n) = true

/-- `Lawful` without `reads_deps`, its one fact about the dependency table.  Termination and leastness need no
more; stability of a node needs beside it that the reads of that node are covered (`step_stable_at`). -/
structure LawfulCore (F : Framework N L) : Prop where
  le_refl : ∀ a, F.le a a = true
  le_trans : ∀ a b c, F.le a b = true → F.le b c = true → F.le a c = true
  le_antisymm : ∀ a b, F.le a b = true → F.le b a = true → a = b
  join_ub_l : ∀ a b, F.le a (F.join a b) = true
  join_ub_r : ∀ a b, F.le b (F.join a b) = true
  join_lub : ∀ a b c, F.le a c = true → F.le b c = true → F.le (F.join a b) c = true
  rank_strict : ∀ a b, F.le a b = true → a ≠ b → F.rank a < F.rank b
  rank_le : ∀ a, F.rank a ≤ F.height
  reads_only : ∀ s s' n, (∀ m ∈ F.reads n, s m = s' m) → F.rule s n = F.rule s' n
  mono : ∀ s s' n, (∀ m, F.le (s m) (s' m) = true) → F.le (F.rule s n) (F.rule s' n) = true

omit [DecidableEq N] [DecidableEq L] in
theorem Lawful.core {F : Framework N L} (h : Lawful F) : LawfulCore F :=
  { h with }

omit [DecidableEq L] in
theorem upd_self (s : N → L) (a : N) (v : L) : upd s a v a = v :=
  if_pos rfl

omit [DecidableEq L] in
theorem upd_of_ne (s : N → L) (a : N) (v : L) {m : N} (h : m ≠ a) : upd s a v m = s m :=
  if_neg h

theorem run_induction (F : Framework N L) (P : (N → L) → List N → Prop)
    (hstep : ∀ s a wl, P s (a :: wl) → P (step F s (a :: wl)).1 (step F s (a :: wl)).2)
    (k : Nat) (s : N → L) (wl : List N) (h : P s wl) : P (run F k s wl).1 (run F k s wl).2 := by
  induction k generalizing s wl with
  | zero => exact h
  | succ k ih =>
    cases wl with
    | nil => exact h
    | cons a wl => exact ih _ _ (hstep s a wl h)

theorem step_wl_mem (F : Framework N L) (S : N → Prop) (s : N → L) (a : N) (wl : List N)
    (hS : ∀ m ∈ F.deps a, S m) (hwl : ∀ n ∈ a :: wl, S n) : ∀ n ∈ (step F s (a :: wl)).2, S n := by
  intro n hn
  simp only [step] at hn
  split at hn
  · exact hwl n (List.mem_cons_of_mem _ hn)
  · rcases List.mem_append.mp hn with hn | hn
    · exact hS n (List.mem_reverse.mp hn)
    · exact hwl n (List.mem_cons_of_mem _ hn)

theorem step_le_cons (F : Framework N L) (h : LawfulCore F) (s p : N → L) (a : N) (wl : List N)
    (hp : Stable F p a) (hs : ∀ n, F.le (s n) (p n) = true) :
    ∀ n, F.le ((step F s (a :: wl)).1 n) (p n) = true := by
  intro n
  simp only [step]
  split
  · exact hs n
  · show F.le (upd s a _ n) (p n) = true
    by_cases hna : n = a
    · subst hna
      rw [upd_self]
      exact h.join_lub _ _ _ (hs n) (h.le_trans _ _ _ (h.mono s p n hs) hp)
    · rw [upd_of_ne s a _ hna]
      exact hs n

theorem step_le (F : Framework N L) (h : Lawful F) (s p : N → L) (wl : List N)
    (hp : ∀ n, Stable F p n) (hs : ∀ n, F.le (s n) (p n) = true) :
    ∀ n, F.le ((step F s wl).1 n) (p n) = true := by
  cases wl with
  | nil => exact hs
  | cons a wl => exact step_le_cons F h.core s p a wl (hp a) hs

/-- `S`: a set of nodes the work-list never leaves (everything for `C07_least`, the nodes of `F` for
`C07_least_on_nodes`) -/
theorem run_le (F : Framework N L) (h : LawfulCore F) (S : N → Prop)
    (hS : ∀ n, S n → ∀ m ∈ F.deps n, S m) (p : N → L) (hp : ∀ n, S n → Stable F p n)
    (k : Nat) (s : N → L) (wl : List N) (hwl : ∀ n ∈ wl, S n) (hs : ∀ n, F.le (s n) (p n) = true) :
    ∀ n, F.le ((run F k s wl).1 n) (p n) = true := by
  refine (run_induction F (fun s wl => (∀ n ∈ wl, S n) ∧ ∀ n, F.le (s n) (p n) = true) ?_ k s wl ⟨hwl, hs⟩).2
  intro s a wl ⟨hwl, hs⟩
  have ha : S a := hwl a (List.mem_cons_self ..)
  exact ⟨step_wl_mem F S s a wl (hS a ha) hwl, step_le_cons F h s p a wl (hp a ha) hs⟩

def Inv (F : Framework N L) (s : N → L) (wl : List N) : Prop :=
  ∀ n ∈ F.nodes, n ∉ wl → Stable F s n

theorem step_stable_at (F : Framework N L) (h : LawfulCore F) (n : N) (hcov : ∀ m ∈ F.reads n, n ∈ F.deps m)
    (s : N → L) (wl : List N) (hi : n ∉ wl → Stable F s n) :
    n ∉ (step F s wl).2 → Stable F (step F s wl).1 n := by
  cases wl with
  | nil => exact hi
  | cons a wl =>
    simp only [step]
    split
    · rename_i heq
      show n ∉ wl → Stable F s n
      intro hnw
      by_cases hna : n = a
      · subst hna
        unfold Stable
        rw [← heq]
        exact h.join_ub_r _ _
      · exact hi fun hm => (List.mem_cons.mp hm).elim hna hnw
    · show n ∉ (F.deps a).reverse ++ wl → Stable F (upd s a (F.join (s a) (F.rule s a))) n
      intro hnw
      -- `n` was not re-queued, so it is no dependant of `a` and its rule does not read `a`
      have hrule : F.rule (upd s a (F.join (s a) (F.rule s a))) n = F.rule s n :=
        h.reads_only _ _ n fun m hm => upd_of_ne s a _ fun e =>
          hnw (List.mem_append_left _ (List.mem_reverse.mpr (hcov a (e ▸ hm))))
      unfold Stable
      rw [hrule]
      by_cases hna : n = a
      · subst hna
        rw [upd_self]
        exact h.join_ub_r _ _
      · rw [upd_of_ne s a _ hna]
        exact hi fun hm => (List.mem_cons.mp hm).elim hna fun hw => hnw (List.mem_append_right _ hw)

theorem step_inv (F : Framework N L) (h : Lawful F) (s : N → L) (wl : List N)
    (hi : Inv F s wl) : Inv F (step F s wl).1 (step F s wl).2 :=
  fun n hn => step_stable_at F h.core n (fun m hm => h.reads_deps n m hm hn) s wl (hi n hn)

theorem run_stable_at (F : Framework N L) (h : LawfulCore F) (n : N) (hcov : ∀ m ∈ F.reads n, n ∈ F.deps m)
    (k : Nat) (s : N → L) (wl : List N) (hi : n ∉ wl → Stable F s n) :
    n ∉ (run F k s wl).2 → Stable F (run F k s wl).1 n :=
  run_induction F (fun s wl => n ∉ wl → Stable F s n) (fun s a wl => step_stable_at F h n hcov s (a :: wl)) k s wl hi

theorem sum_map_le_lt {α : Type} (l : List α) (f g : α → Nat) (h : ∀ x ∈ l, g x ≤ f x) :
    (l.map g).sum ≤ (l.map f).sum ∧ ∀ a ∈ l, g a < f a → (l.map g).sum < (l.map f).sum := by
  induction l with
  | nil => exact ⟨Nat.le_refl _, fun _ ha => nomatch ha⟩
  | cons x xs ih =>
    obtain ⟨ih1, ih2⟩ := ih fun y hy => h y (List.mem_cons_of_mem _ hy)
    have hx := h x (List.mem_cons_self ..)
    simp only [List.map_cons, List.sum_cons, List.mem_cons, forall_eq_or_imp]
    exact ⟨by omega, fun hlt => by omega, fun a ha hlt => by have := ih2 a ha hlt; omega⟩

omit [DecidableEq N] [DecidableEq L] in
theorem deps_le_maxDeps (F : Framework N L) (n : N) (hn : n ∈ F.nodes) :
    (F.deps n).length ≤ maxDeps F := by
  show _ ≤ List.foldl max 0 _
  rw [List.foldl_max]
  exact Nat.le_trans (List.le_max?_getD_of_mem (List.mem_map.mpr ⟨n, hn, rfl⟩)) (Nat.le_max_right ..)

omit [DecidableEq L] in
theorem headroom_upd_lt (F : Framework N L) (s : N → L) (a : N) (v : L) (ha : a ∈ F.nodes)
    (hlt : F.rank (s a) < F.rank v) (hv : F.rank v ≤ F.height) : headroom F (upd s a v) < headroom F s := by
  refine (sum_map_le_lt F.nodes _ _ fun x _ => ?_).2 a ha ?_
  · by_cases hxa : x = a
    · subst hxa
      rw [upd_self]
      omega
    · rw [upd_of_ne s a v hxa]
      exact Nat.le_refl _
  · rw [upd_self]
    omega

theorem step_fuel (F : Framework N L) (h : LawfulCore F) (s : N → L) (a : N) (wl : List N)
    (ha : a ∈ F.nodes) :
    fuel F (step F s (a :: wl)).1 (step F s (a :: wl)).2 < fuel F s (a :: wl) := by
  simp only [step]
  split
  · simp [fuel]
  · rename_i hne
    have hlt := headroom_upd_lt F s a _ ha (h.rank_strict _ _ (h.join_ub_l _ _) (Ne.symm hne)) (h.rank_le _)
    have hd := deps_le_maxDeps F a ha
    simp only [fuel, List.length_append, List.length_reverse, List.length_cons]
    have := Nat.mul_le_mul_right (maxDeps F + 1) hlt
    rw [Nat.succ_mul] at this
    omega

theorem run_terminates (F : Framework N L) (h : LawfulCore F)
    (hd : ∀ n ∈ F.nodes, ∀ m ∈ F.deps n, m ∈ F.nodes) (k : Nat) (s : N → L) (wl : List N)
    (hwl : ∀ n ∈ wl, n ∈ F.nodes) (hk : fuel F s wl ≤ k) : (run F k s wl).2 = [] := by
  induction k generalizing s wl with
  | zero => exact List.eq_nil_of_length_eq_zero (Nat.eq_zero_of_le_zero (Nat.le_trans (Nat.le_add_right ..) hk))
  | succ k ih =>
    cases wl with
    | nil => rfl
    | cons a wl =>
      have ha : a ∈ F.nodes := hwl a (List.mem_cons_self ..)
      have := step_fuel F h s a wl ha
      exact ih _ _ (step_wl_mem F (· ∈ F.nodes) s a wl (hd a ha) hwl) (by omega)

omit [DecidableEq L] in
theorem getA_replicate (bot : L) (size : Nat) : getA bot (Array.replicate size bot) = fun _ => bot := by
  funext n
  simp only [getA, Array.getD_eq_getD_getElem?, Array.getElem?_replicate]
  split <;> rfl

omit [DecidableEq L] in
theorem getA_set (bot : L) (a : Array L) (n : Nat) (v : L) (hn : n < a.size) :
    getA bot (a.setIfInBounds n v) = upd (getA bot a) n v := by
  funext m
  simp only [getA, upd, Array.getD_eq_getD_getElem?, Array.getElem?_setIfInBounds, hn, if_true, eq_comm (a := m)]
  split <;> rfl

theorem stepA_step (F : Framework Nat L) (a : Array L) (wl : List Nat) (hwl : ∀ n ∈ wl, n < a.size) :
    getA F.bot (stepA F a wl).1 = (step F (getA F.bot a) wl).1 ∧
    (stepA F a wl).2 = (step F (getA F.bot a) wl).2 ∧ (stepA F a wl).1.size = a.size := by
  cases wl with
  | nil => simp [stepA, step]
  | cons n wl =>
    simp only [stepA, step]
    split
    · exact ⟨rfl, rfl, rfl⟩
    · exact ⟨getA_set F.bot a n _ (hwl n (List.mem_cons_self ..)), rfl, Array.size_setIfInBounds⟩

theorem runA_run (F : Framework Nat L) (size : Nat) (hd : ∀ n < size, ∀ m ∈ F.deps n, m < size)
    (k : Nat) (a : Array L) (wl : List Nat) (ha : a.size = size) (hwl : ∀ n ∈ wl, n < size) :
    getA F.bot (runA F k a wl).1 = (run F k (getA F.bot a) wl).1 ∧
    (runA F k a wl).2 = (run F k (getA F.bot a) wl).2 := by
  induction k generalizing a wl with
  | zero => simp [runA, run]
  | succ k ih =>
    cases wl with
    | nil => simp [runA, run]
    | cons n wl =>
      simp only [runA, run]
      obtain ⟨h1, h2, h3⟩ := stepA_step F a (n :: wl) (ha ▸ hwl)
      rw [← h1, ← h2]
      exact ih _ _ (h3.trans ha) (h2 ▸ step_wl_mem F (· < size) _ n wl (hd n (hwl n (List.mem_cons_self ..))) hwl)

end BindgenModel.Worklist

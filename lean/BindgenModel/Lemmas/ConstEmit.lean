import BindgenModel.Model.ConstEmit
import BindgenModel.Lemmas.CExpr
/-! Decimal print / read round trip (`int_expr` / `uint_expr` literals as rustc reads them), and the
items `Enum::codegen` emits read back as the declared enumerators. -/
namespace BindgenModel.ConstEmit

def ofDigitsRev (l : List Nat) : Nat := l.foldr (fun d acc => acc * 10 + d) 0

theorem digitsRev_spec (fuel n : Nat) (h : n < fuel) :
    ofDigitsRev (digitsRev fuel n) = n ∧ (∀ d ∈ digitsRev fuel n, d < 10) ∧ digitsRev fuel n ≠ [] := by
  fun_induction digitsRev fuel n with
  | case1 => omega
  | case2 fuel n hn => simp [ofDigitsRev, hn]
  | case3 fuel n hn ih =>
    obtain ⟨h1, h2, _⟩ := ih (by omega)
    refine ⟨?_, ?_, List.cons_ne_nil _ _⟩
    · simp only [ofDigitsRev, List.foldr_cons] at h1 ⊢
      omega
    · intro d hd
      rcases List.mem_cons.1 hd with rfl | hd
      · omega
      · exact h2 d hd

theorem readDigit_digitChar : ∀ d, d < 10 → readDigit (digitChar d) = some d := by decide

theorem digitChar_ne_minus : ∀ d, d < 10 → digitChar d ≠ '-' := by decide

theorem readNatAux_digits (l : List Nat) (hl : ∀ d ∈ l, d < 10) (acc : Nat) :
    readNatAux (l.map digitChar) acc = some (l.foldl (fun a d => a * 10 + d) acc) := by
  induction l generalizing acc with
  | nil => rfl
  | cons d ds ih =>
    simp only [List.map_cons, readNatAux, readDigit_digitChar d (hl d List.mem_cons_self), List.foldl_cons]
    exact ih (fun x hx => hl x (List.mem_cons_of_mem _ hx)) _

theorem readNat_printNat (n : Nat) : readNat (printNat n) = some n := by
  obtain ⟨h1, h2, h3⟩ := digitsRev_spec (n + 1) n (by omega)
  have hne : (printNat n).isEmpty = false := by simpa [printNat] using h3
  rw [readNat, hne, printNat]
  simp only [Bool.false_eq_true, if_false]
  rw [readNatAux_digits _ (fun d hd => h2 d (List.mem_reverse.1 hd)), List.foldl_reverse]
  exact congrArg some h1

theorem printNat_head_ne_minus (n : Nat) : (printNat n).head? ≠ some '-' := by
  intro h
  obtain ⟨d, hd, hc⟩ := List.mem_map.1 (List.mem_of_mem_head? h)
  exact digitChar_ne_minus d ((digitsRev_spec (n + 1) n (by omega)).2.1 d (List.mem_reverse.1 hd)) hc

theorem readInt_printNat (n : Nat) : readInt (printNat n) = some (n : Int) := by
  unfold readInt
  simp only [printNat_head_ne_minus, if_false, readNat_printNat, Option.map_some]
  rfl

theorem readInt_printInt (v : Int) : readInt (printInt v) = some v := by
  unfold printInt
  split
  · next hv =>
    simp only [readInt, List.head?_cons, if_true, List.tail_cons, readNat_printNat, Option.map_some,
      Int.ofNat_eq_natCast, Int.toNat_of_nonneg (show 0 ≤ -v by omega), Int.neg_neg]
  · next hv => rw [readInt_printNat, Int.toNat_of_nonneg (by omega)]

open BindgenModel.CExpr

theorem readLit_variantLiteral (isRust : Bool) {t : CTy} {v : Int} (h : t.holds v = true) :
    readLit (variantLiteral isRust (extractVal t v)) = some v := by
  unfold extractVal
  split
  · rename_i hb
    subst hb
    have hv : v = 0 ∨ v = 1 := by
      simp [CTy.holds, CTy.lo, CTy.hi, CTy.signed] at h
      omega
    rcases hv with rfl | rfl <;> cases isRust <;> rfl
  · split
    · rename_i hs
      have hv := holds_signed_i64 hs h
      simp only [variantLiteral, readLit, wrap64_eq v hv.1 hv.2, readInt_printInt]
    · rename_i hs
      have hv := holds_unsigned (Bool.of_not_eq_true hs) h
      simp only [variantLiteral, readLit, Int.emod_eq_of_lt hv.1 hv.2, readInt_printNat, Int.toNat_of_nonneg hv.1]

theorem extractVal_inj {t : CTy} {a b : Int} (ha : t.holds a = true) (hb : t.holds b = true)
    (h : extractVal t a = extractVal t b) : a = b := by
  have ra := readLit_variantLiteral false ha
  have rb := readLit_variantLiteral false hb
  rw [h] at ra
  rw [ra] at rb
  exact Option.some.inj rb

theorem nameLookup_append_some {pre : List (String × Int)} {n : String} {v : Int}
    (h : nameLookup pre n = some v) (x : List (String × Int)) : nameLookup (pre ++ x) n = some v := by
  fun_induction nameLookup pre n with
  | case1 => cases h
  | case2 w rest => simpa only [List.cons_append, nameLookup, if_true] using h
  | case3 k w rest hk ih => simpa only [List.cons_append, nameLookup, hk, if_false] using ih h

theorem nameLookup_append_new {pre : List (String × Int)} {n : String} (v : Int)
    (h : n ∉ pre.map (·.1)) : nameLookup (pre ++ [(n, v)]) n = some v := by
  induction pre with
  | nil => simp [nameLookup]
  | cons p ps ih =>
    obtain ⟨k, w⟩ := p
    simp only [List.map_cons, List.mem_cons, not_or] at h
    simp only [List.cons_append, nameLookup, if_neg (Ne.symm h.1)]
    exact ih h.2

theorem emitVariants_nonRust (t : CTy) (vs : List (String × Int)) (seen : List (EVal × String)) :
    emitVariants false t vs seen = vs.map fun p => .lit p.1 (variantLiteral false (extractVal t p.2)) := by
  induction vs generalizing seen with
  | nil => rfl
  | cons p vs ih =>
    obtain ⟨n, v⟩ := p
    simp only [emitVariants, Bool.false_eq_true, if_false, List.map_cons]
    split <;> rw [ih]

/-- invariant of the loop of `Enum::codegen` as read back: every value in `seen_values` is that of
a name already read (`pre`), whose C value is a value of `t` -/
def SeenOk (t : CTy) (seen : List (EVal × String)) (pre : List (String × Int)) : Prop :=
  ∀ ev nm, seenLookup seen ev = some nm →
    ∃ v, nameLookup pre nm = some v ∧ extractVal t v = ev ∧ t.holds v = true

theorem SeenOk.nil (t : CTy) (pre : List (String × Int)) : SeenOk t [] pre := by
  intro ev nm h
  cases h

theorem SeenOk.append {t : CTy} {seen : List (EVal × String)} {pre : List (String × Int)}
    (h : SeenOk t seen pre) (x : List (String × Int)) : SeenOk t seen (pre ++ x) := by
  intro ev nm hs
  obtain ⟨w, h1, h2, h3⟩ := h ev nm hs
  exact ⟨w, nameLookup_append_some h1 x, h2, h3⟩

theorem SeenOk.cons {t : CTy} {seen : List (EVal × String)} {pre : List (String × Int)}
    (h : SeenOk t seen pre) {n : String} {v : Int} (hn : n ∉ pre.map (·.1)) (hv : t.holds v = true) :
    SeenOk t ((extractVal t v, n) :: seen) (pre ++ [(n, v)]) := by
  intro ev nm hs
  simp only [seenLookup] at hs
  split at hs
  · rename_i heq
    cases hs
    exact ⟨v, nameLookup_append_new v hn, heq, hv⟩
  · exact h.append _ ev nm hs

theorem readItems_emitVariants (isRust : Bool) (t : CTy) (vs : List (String × Int))
    (seen : List (EVal × String)) (pre : List (String × Int))
    (hfit : ∀ p ∈ vs, t.holds p.2 = true) (hnd : (pre.map (·.1) ++ vs.map (·.1)).Nodup)
    (hinv : SeenOk t seen pre) :
    readItems pre (emitVariants isRust t vs seen) = some (pre ++ vs) := by
  induction vs generalizing seen pre with
  | nil => simp [emitVariants, readItems]
  | cons p rest ih =>
    obtain ⟨n, v⟩ := p
    have hv : t.holds v = true := hfit (n, v) List.mem_cons_self
    have hn_new : n ∉ pre.map (·.1) := fun hmem =>
      (List.nodup_append.1 hnd).2.2 n hmem n List.mem_cons_self rfl
    have hlit := readLit_variantLiteral isRust hv
    -- whichever item is emitted for `(n, v)` reads back as `(n, v)`; the rest is read after `pre ++ [(n, v)]`
    have rest_ok : ∀ seen', SeenOk t seen' (pre ++ [(n, v)]) →
        readItems (pre ++ [(n, v)]) (emitVariants isRust t rest seen') = some (pre ++ (n, v) :: rest) := by
      intro seen' h'
      rw [ih seen' _ (fun q hq => hfit q (List.mem_cons_of_mem _ hq))
        (by simpa [List.map_append, List.append_assoc] using hnd) h']
      simp
    simp only [emitVariants]
    cases hs : seenLookup seen (extractVal t v) with
    | some first =>
      obtain ⟨v', hl, hev, hh⟩ := hinv _ _ hs
      cases extractVal_inj hh hv hev
      cases isRust with
      | true =>
        simp only [if_true, readItems, hl]
        exact rest_ok seen (hinv.append _)
      | false =>
        simp only [Bool.false_eq_true, if_false, readItems, hlit]
        exact rest_ok seen (hinv.append _)
    | none =>
      simp only [readItems, hlit]
      exact rest_ok _ (hinv.cons hn_new hv)

end BindgenModel.ConstEmit

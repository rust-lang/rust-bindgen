import BindgenModel.Model.Layout
/-! Lemmas about `alignTo`, `forSize` and `blob` (layer 1 of C02). -/
namespace BindgenModel.Layout

theorem alignTo_zero (s : Nat) : alignTo s 0 = s := by simp [alignTo]

theorem alignTo_zero_left (a : Nat) : alignTo 0 a = 0 := by simp [alignTo]

theorem alignTo_spec (s a : Nat) (ha : 0 < a) : alignTo s a % a = 0 ∧ s ≤ alignTo s a ∧ alignTo s a < s + a := by
  have hlt : s % a < a := Nat.mod_lt _ ha
  unfold alignTo
  rw [if_neg (by omega)]
  split
  · omega
  · have hdm := Nat.div_add_mod s a
    refine ⟨?_, by omega, by omega⟩
    rw [show s + a - s % a = a * (s / a) + a by omega, Nat.add_mod_right, Nat.mul_mod_right]

theorem alignTo_mod (s a : Nat) (ha : 0 < a) : alignTo s a % a = 0 := (alignTo_spec s a ha).1

theorem alignTo_lt (s a : Nat) (ha : 0 < a) : alignTo s a < s + a := (alignTo_spec s a ha).2.2

theorem alignTo_ge (s a : Nat) : s ≤ alignTo s a := by
  by_cases ha : a = 0
  · rw [ha, alignTo_zero]
    exact Nat.le_refl s
  · exact (alignTo_spec s a (Nat.pos_of_ne_zero ha)).2.1

theorem alignTo_least (s a m : Nat) (hm : m % a = 0) (hs : s ≤ m) : alignTo s a ≤ m := by
  rcases Nat.eq_zero_or_pos a with rfl | ha
  · rwa [alignTo_zero]
  · exact Nat.le_of_lt_add_of_dvd (Nat.lt_of_lt_of_le (alignTo_lt s a ha) (Nat.add_le_add_right hs a))
      (Nat.dvd_of_mod_eq_zero (alignTo_mod s a ha)) (Nat.dvd_of_mod_eq_zero hm)

theorem alignTo_of_mod_eq_zero (s a : Nat) (h : s % a = 0) : alignTo s a = s := by
  simp [alignTo, h]

theorem alignTo_eq_of (s a m : Nat) (hm : m % a = 0) (hs : s ≤ m) (hlt : m < s + a) : alignTo s a = m :=
  Nat.le_antisymm (alignTo_least s a m hm hs)
    (Nat.le_of_lt_add_of_dvd (Nat.lt_of_lt_of_le hlt (Nat.add_le_add_right (alignTo_ge s a) a))
      (Nat.dvd_of_mod_eq_zero hm)
      (Nat.dvd_of_mod_eq_zero (alignTo_mod s a (Nat.pos_of_lt_add_right (Nat.lt_of_le_of_lt hs hlt)))))

theorem alignTo_idem (s a : Nat) : alignTo (alignTo s a) a = alignTo s a := by
  by_cases ha : a = 0
  · rw [ha, alignTo_zero, alignTo_zero]
  · exact alignTo_of_mod_eq_zero _ _ (alignTo_mod s a (by omega))

theorem alignTo_of_dvd (s a b : Nat) (hs : s % a = 0) (hb : a % b = 0) : alignTo s b = s := by
  apply alignTo_of_mod_eq_zero
  have h1 : a ∣ s := Nat.dvd_of_mod_eq_zero hs
  have h2 : b ∣ a := Nat.dvd_of_mod_eq_zero hb
  exact Nat.mod_eq_zero_of_dvd (Nat.dvd_trans h2 h1)

/-- As many whole `a`s as fit into the gap up to a multiple `O` of `a`, put at the next multiple of `a`, end at `O`. -/
theorem alignTo_add_floor (cur O a : Nat) (ha : 0 < a) (hO : O % a = 0) (hc : cur ≤ O) :
    alignTo cur a + a * ((O - cur) / a) = O := by
  have h1 := Nat.mul_div_le (O - cur) a
  have h2 := Nat.lt_mul_div_succ (O - cur) ha
  rw [Nat.mul_add_one] at h2
  have hm : (O - a * ((O - cur) / a)) % a = 0 :=
    Nat.sub_mod_eq_zero_of_mod_eq (by rw [hO, Nat.mul_mod_right])
  rw [alignTo_eq_of cur a (O - a * ((O - cur) / a)) hm (by omega) (by omega)]
  omega

theorem pow2_gap_dvd (e k j : Nat) (hd : (alignTo e (2 ^ j) - e) % 2 ^ k = 0) (hne : alignTo e (2 ^ j) - e ≠ 0) :
    2 ^ k ∣ 2 ^ j ∧ e % 2 ^ k = 0 := by
  have hA : 0 < 2 ^ j := Nat.pow_pos (by decide)
  have h2 := alignTo_ge e (2 ^ j)
  have hle : 2 ^ k ≤ alignTo e (2 ^ j) - e :=
    Nat.le_of_dvd (Nat.pos_of_ne_zero hne) (Nat.dvd_of_mod_eq_zero hd)
  have hlt : 2 ^ k < 2 ^ j := Nat.lt_of_le_of_lt hle (Nat.sub_lt_left_of_lt_add h2 (alignTo_lt e _ hA))
  have hdvd : 2 ^ k ∣ 2 ^ j :=
    Nat.pow_dvd_pow 2 (Nat.le_of_lt ((Nat.pow_lt_pow_iff_right (by decide)).mp hlt))
  refine ⟨hdvd, ?_⟩
  rw [← Nat.sub_sub_self h2]
  exact Nat.mod_eq_zero_of_dvd (Nat.dvd_sub
    (Nat.dvd_trans hdvd (Nat.dvd_of_mod_eq_zero (alignTo_mod e _ hA))) (Nat.dvd_of_mod_eq_zero hd))

/-- Alignment 1, 2 or 4 (0 counts as 1): an integer or an array of integers; `size / align` truncates. -/
theorem blob_small (l : Layout) (ffi : Bool)
    (h : max l.align 1 = 1 ∨ max l.align 1 = 2 ∨ max l.align 1 = 4) :
    (blob l ffi).size = max l.align 1 * (l.size / max l.align 1) ∧ (blob l ffi).align = max l.align 1 ∧
      blob l ffi ≠ .panic ∧ ∀ a s, blob l ffi ≠ .opaqueA a s := by
  have h4 : max l.align 1 ≤ 4 := by omega
  have hk : knownTypeForSize (max l.align 1) = some (max l.align 1) := by
    unfold knownTypeForSize
    rcases h with h | h | h <;> simp [h]
  simp only [blob, h4, if_true, hk]
  split
  · rename_i h1
    simp [BlobTy.size, BlobTy.align, h1]
  · split <;> simp [BlobTy.size, BlobTy.align]

theorem blob_big (l : Layout) (ffi : Bool) (h : 4 < l.align) : blob l ffi = .opaqueA l.align l.size := by
  have hA : max l.align 1 = l.align := by omega
  have h4 : ¬ l.align ≤ 4 := by omega
  simp only [blob, hA, h4, if_false]

theorem blob_floor (l : Layout) (ffi : Bool)
    (h : l.align = 1 ∨ l.align = 2 ∨ l.align = 4 ∨ (l.align = 8 ∧ l.size % 8 = 0)) :
    (blob l ffi).size = l.align * (l.size / l.align) ∧ (blob l ffi).align = l.align ∧ blob l ffi ≠ .panic := by
  have hA : max l.align 1 = l.align := by omega
  by_cases h4 : l.align ≤ 4
  · obtain ⟨s1, s2, s3, -⟩ := blob_small l ffi (by omega)
    rw [hA] at s1 s2
    exact ⟨s1, s2, s3⟩
  · obtain ⟨h8, hd⟩ : l.align = 8 ∧ l.size % 8 = 0 := by omega
    rw [blob_big l ffi (by omega), h8]
    exact ⟨by rw [BlobTy.size, alignTo_of_mod_eq_zero _ _ hd, Nat.mul_div_cancel' (Nat.dvd_of_mod_eq_zero hd)],
      rfl, nofun⟩

theorem blob_ne_panic (l : Layout) (ffi : Bool) (h3 : l.align ≠ 3) : blob l ffi ≠ .panic := by
  by_cases h4 : l.align ≤ 4
  · exact (blob_small l ffi (by omega)).2.2.1
  · rw [blob_big l ffi (by omega)]
    nofun

theorem blob_exact (l : Layout) (ffi : Bool) (h3 : l.align ≠ 3) (hdvd : l.size % (max l.align 1) = 0) :
    (blob l ffi).size = l.size ∧ (blob l ffi).align = max l.align 1 := by
  by_cases h4 : l.align ≤ 4
  · obtain ⟨h1, h2, -⟩ := blob_small l ffi (by omega)
    exact ⟨by rw [h1, Nat.mul_div_cancel' (Nat.dvd_of_mod_eq_zero hdvd)], h2⟩
  · have hA : max l.align 1 = l.align := by omega
    rw [blob_big l ffi (by omega), hA]
    exact ⟨alignTo_of_mod_eq_zero _ _ (hA ▸ hdvd), rfl⟩

theorem blob_inexact_grows (l : Layout) (ffi : Bool) (h : 4 < l.align) (hnd : l.size % l.align ≠ 0) :
    l.size < (blob l ffi).size := by
  rw [blob_big l ffi h]
  have hmod := alignTo_mod l.size l.align (by omega)
  apply Nat.lt_of_le_of_ne (alignTo_ge l.size l.align)
  intro he
  rw [← he] at hmod
  exact hnd hmod

/-- The padding in front of an `__int128` member after an `int`. -/
theorem blob_inexact_witness : (blob { size := 12, align := 8 } false).size = 16 := by decide

theorem forSizeLoop_pos (fuel ptr size next : Nat) (h : 0 < next) : 0 < forSizeLoop fuel ptr size next := by
  induction fuel generalizing next with
  | zero => simpa [forSizeLoop]
  | succ n ih =>
    unfold forSizeLoop
    split
    · exact ih _ (by omega)
    · exact h

theorem forSizeLoop_pow2 (fuel ptr size k : Nat) (h : size % 2 ^ k = 0) :
    ∃ j, forSizeLoop fuel ptr size (2 ^ (k + 1)) = 2 ^ (j + 1) ∧ size % 2 ^ j = 0 := by
  induction fuel generalizing k with
  | zero => exact ⟨k, rfl, h⟩
  | succ n ih =>
    unfold forSizeLoop
    split
    · rename_i hc
      rw [← Nat.pow_succ]
      exact ih (k + 1) hc.1
    · exact ⟨k, rfl, h⟩

theorem forSize_pow2 (ptr size : Nat) : ∃ k, (forSize ptr size).align = 2 ^ k ∧ size % 2 ^ k = 0 := by
  obtain ⟨k, hk, hd⟩ := forSizeLoop_pow2 (ptr + 1) ptr size 0 (Nat.mod_one size)
  refine ⟨k, ?_, hd⟩
  unfold forSize
  simp only [hk, Nat.pow_succ, Nat.mul_div_cancel _ (by decide : 0 < 2)]

theorem forSize_dvd (ptr size : Nat) : size % (forSize ptr size).align = 0 ∧ (forSize ptr size).size = size := by
  obtain ⟨k, hk, hd⟩ := forSize_pow2 ptr size
  rw [hk]
  exact ⟨hd, rfl⟩

end BindgenModel.Layout

import BindgenModel.Model.InsertSort
/-! `insertBy` / `stableSort` for every key: permutation, sortedness, stability (`stableSort_filter`), and
that these determine the result (`stableSort_unique`). -/
namespace BindgenModel.Post

section
variable {β : Type} (key : β → Nat)

def Sorted (l : List β) : Prop := l.Pairwise (fun a b => key a ≤ key b)

theorem foldr_insertBy (l : List β) : l.foldr (insertBy key) [] = stableSort key l := by
  induction l with
  | nil => rfl
  | cons x xs ih => rw [List.foldr_cons, ih, stableSort]

theorem insertBy_perm (x : β) (l : List β) : (insertBy key x l).Perm (x :: l) := by
  induction l with
  | nil => exact .refl _
  | cons y ys ih =>
    unfold insertBy
    split
    · exact .refl _
    · exact (ih.cons y).trans (.swap x y ys)

theorem stableSort_perm (l : List β) : (stableSort key l).Perm l := by
  induction l with
  | nil => exact .refl _
  | cons x xs ih => exact (insertBy_perm key x _).trans (ih.cons x)

theorem insertBy_sorted (x : β) (l : List β) (h : Sorted key l) : Sorted key (insertBy key x l) := by
  induction l with
  | nil => exact List.pairwise_singleton _ x
  | cons y ys ih =>
    obtain ⟨h1, h2⟩ := List.pairwise_cons.mp h
    unfold insertBy
    split
    · rename_i hle
      refine List.Pairwise.cons (fun z hz => ?_) h
      rcases List.mem_cons.mp hz with rfl | hz
      · exact hle
      · exact Nat.le_trans hle (h1 z hz)
    · rename_i hnle
      refine List.Pairwise.cons (fun z hz => ?_) (ih h2)
      rcases List.mem_cons.mp ((insertBy_perm key x ys).mem_iff.mp hz) with rfl | hz
      · exact Nat.le_of_not_le hnle
      · exact h1 z hz

theorem stableSort_sorted (l : List β) : Sorted key (stableSort key l) := by
  induction l with
  | nil => exact .nil
  | cons x xs ih => exact insertBy_sorted key x _ ih

/-- `x` is only moved past smaller keys, so it overtakes nothing that `q` selects together with it -/
theorem insertBy_filter (q : β → Bool) (r : Nat) (x : β) (l : List β) (hx : q x = true → key x = r)
    (hl : ∀ y ∈ l, q y = true → key y = r) : (insertBy key x l).filter q = (x :: l).filter q := by
  induction l with
  | nil => rfl
  | cons y ys ih =>
    unfold insertBy
    split
    · rfl
    · rename_i hnle
      have ih' := ih fun z hz => hl z (List.mem_cons_of_mem _ hz)
      cases hqx : q x with
      | false => simp only [List.filter_cons, ih', hqx, Bool.false_eq_true, if_false]
      | true =>
        have hqy : q y = false := Bool.eq_false_iff.mpr fun hqy =>
          hnle (Nat.le_of_eq ((hx hqx).trans (hl y List.mem_cons_self hqy).symm))
        simp only [List.filter_cons, ih', hqx, hqy, Bool.false_eq_true, if_false, if_true]

theorem stableSort_filter (q : β → Bool) (r : Nat) (l : List β) (h : ∀ y ∈ l, q y = true → key y = r) :
    (stableSort key l).filter q = l.filter q := by
  induction l with
  | nil => rfl
  | cons x xs ih =>
    have hxs : ∀ y ∈ xs, q y = true → key y = r := fun y hy => h y (List.mem_cons_of_mem _ hy)
    rw [stableSort, insertBy_filter key q r x _ (h x List.mem_cons_self)
      fun y hy => hxs y ((stableSort_perm key xs).mem_iff.mp hy),
      List.filter_cons, List.filter_cons, ih hxs]

theorem stableSort_filter_key (k : Nat) (l : List β) :
    (stableSort key l).filter (fun a => key a == k) = l.filter (fun a => key a == k) :=
  stableSort_filter key _ k l fun _ _ => eq_of_beq

theorem stableSort_of_sorted (l : List β) (h : Sorted key l) : stableSort key l = l := by
  induction l with
  | nil => rfl
  | cons x xs ih =>
    obtain ⟨h1, h2⟩ := List.pairwise_cons.mp h
    rw [stableSort, ih h2]
    cases xs with
    | nil => rfl
    | cons y ys => exact if_pos (h1 y List.mem_cons_self)

theorem stableSort_idem (l : List β) : stableSort key (stableSort key l) = stableSort key l :=
  stableSort_of_sorted key _ (stableSort_sorted key l)

variable {key} in
theorem Sorted.head_le {a b : β} {t : List β} (h : Sorted key (a :: t)) (hb : b ∈ a :: t) :
    key a ≤ key b := by
  rcases List.mem_cons.mp hb with rfl | hb
  · exact Nat.le_refl _
  · exact List.rel_of_pairwise_cons h hb

theorem sorted_ext {l₁ l₂ : List β} (h₁ : Sorted key l₁) (h₂ : Sorted key l₂)
    (h : ∀ k, l₁.filter (fun a => key a == k) = l₂.filter (fun a => key a == k)) : l₁ = l₂ := by
  have mem : ∀ {l l' : List β}, (∀ k, l.filter (fun a => key a == k) = l'.filter (fun a => key a == k)) →
      ∀ b ∈ l', b ∈ l := fun {l l'} h b hb => by
    have : b ∈ l'.filter (fun a => key a == key b) := List.mem_filter.mpr ⟨hb, beq_self_eq_true _⟩
    rw [← h] at this
    exact (List.mem_filter.mp this).1
  induction l₁ generalizing l₂ with
  | nil =>
    cases l₂ with
    | nil => rfl
    | cons b t => cases mem h b List.mem_cons_self
  | cons a t₁ ih =>
    cases l₂ with
    | nil => cases mem (fun k => (h k).symm) a List.mem_cons_self
    | cons b t₂ =>
      -- each head occurs in the other list, so the heads have the same key, and are the first of that key
      have hk : key a = key b := Nat.le_antisymm (h₁.head_le (mem h b List.mem_cons_self))
        (h₂.head_le (mem (fun k => (h k).symm) a List.mem_cons_self))
      have hab := h (key a)
      simp only [List.filter_cons, hk, beq_self_eq_true, if_true, List.cons.injEq] at hab
      obtain rfl := hab.1
      refine congrArg (a :: ·) (ih h₁.tail h₂.tail fun k => ?_)
      have := h k
      rw [List.filter_cons, List.filter_cons] at this
      split at this
      · exact (List.cons.inj this).2
      · exact this

theorem stableSort_unique {l l' : List β} (hs : Sorted key l')
    (hst : ∀ k, l'.filter (fun a => key a == k) = l.filter (fun a => key a == k)) :
    l' = stableSort key l :=
  sorted_ext key hs (stableSort_sorted key l) fun k => (hst k).trans (stableSort_filter_key key k l).symm

theorem stableSort_comm_of_filter (f : List β → List β)
    (hf : ∀ k l, (f l).filter (fun a => key a == k) = f (l.filter (fun a => key a == k))) (l : List β) :
    stableSort key (f (stableSort key l)) = stableSort key (f l) :=
  sorted_ext key (stableSort_sorted key _) (stableSort_sorted key _) fun k => by
    rw [stableSort_filter_key, stableSort_filter_key, hf, hf, stableSort_filter_key]

end

theorem insertBy_map {β γ : Type} (key : γ → Nat) (g : β → γ) (x : β) (l : List β) :
    insertBy key (g x) (l.map g) = (insertBy (key ∘ g) x l).map g := by
  induction l with
  | nil => rfl
  | cons y ys ih =>
    simp only [List.map_cons, insertBy, Function.comp]
    split
    · rfl
    · rw [List.map_cons, ih]

theorem stableSort_map {β γ : Type} (key : γ → Nat) (g : β → γ) (l : List β) :
    stableSort key (l.map g) = (stableSort (key ∘ g) l).map g := by
  induction l with
  | nil => rfl
  | cons x xs ih => rw [List.map_cons, stableSort, ih, insertBy_map, stableSort]

end BindgenModel.Post

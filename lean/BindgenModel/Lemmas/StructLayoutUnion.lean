import BindgenModel.Lemmas.StructLayout
/-!
# C02, layer 6: unions

One field loop (`emitFields_union`) for both forms of a union: the Rust `union`, whose members `repr(C)`
places by `unionFields`, and the struct of zero-sized `__BindgenUnionField`s that ends with a blob of the
union's layout.
-/
namespace BindgenModel.C02
open BindgenModel.Layout BindgenModel.StructLayout BindgenModel.CompCodegen

theorem emit_union (o : Opts) (c : CAgg) (l : Layout) (hc : Simple c l) (hiu : c.isUnion = true)
    {tE t2 : Tracker} {ff : List RField} {p2 : Option Pad}
    (hE : emitFields (!(c.isRustUnion o).1) 0 (tracker0 o c) c.fields = (tE, ff))
    (hT : tE.addTailPadding l = (t2, p2)) :
    emit o c =
      let fs := ff ++ padList p2 ++ (if t2.isRustUnion then [] else [blobField .unionField l])
      let ea := t2.requiresExplicitAlign l
      let front := ea && c.hasBitfields && decide (l.align ≤ 8)
      let fs' := if front then alignFieldFor o l.align :: fs else fs
      if fs'.any (fun f => f.blob == some .panic) then none else
      some { isUnion := (c.isRustUnion o).1
             packed := if c.isPacked && !(ea && c.alreadyPacked.getD false) then some l.align else none
             align := if ea && !front then some l.align else none
             fields := fs' } := by
  obtain ⟨hvt, hbs, hop, hfw, hzs, hl⟩ := hc
  simp only [tracker0, hiu, hl] at hE
  unfold emit
  simp only [hiu, hl, hop, hvt, hbs, hfw, hzs, emitBases, hE, hT, Tracker.tailPaddingUnderflows,
    Bool.false_and, Bool.and_false, Bool.false_eq_true, if_false, Bool.not_false, List.nil_append, Bool.and_self, if_true,
    Bool.true_and, Bool.not_true]
  cases t2.isRustUnion <;> cases t2.requiresExplicitAlign l <;>
    simp only [Bool.not_false, Bool.not_true, if_true, if_false, Bool.false_eq_true, Bool.false_and, Bool.true_and,
      Option.isSome_none, Option.isSome_some, Bool.and_true, List.append_nil] <;>
    cases c.hasBitfields && decide (l.align ≤ 8) <;> rfl

structure UInv (t : Tracker) (force ru : Bool) : Prop where
  u : t.compIsUnion = true
  ru : t.isRustUnion = ru
  fp : t.forcePadding = force

theorem sawField_union {t : Tracker} {force ru : Bool} (h : UInv t force ru) (ty : FieldTy) (fl : Layout)
    (off : Option Nat) (hl : ty.layout = some fl) (hh : arrayHackInactive ty = true) :
    ∃ t1, t.sawField ty off = (t1, none) ∧ UInv t1 force ru ∧
      t1.maxFieldAlign = max t.maxFieldAlign fl.align := by
  rw [sawField_eq_withLayout t ty fl _ hl hh]
  obtain ⟨X, hX⟩ := alignToLatestField_only_offset t fl
  obtain ⟨u, hru, fp⟩ := h
  unfold Tracker.sawFieldWithLayout
  rcases hA : t.alignToLatestField fl with ⟨t', wm⟩
  rw [hA] at hX
  simp only at hX
  subst hX
  simp only [u, or_true, if_true]
  exact ⟨_, rfl, ⟨rfl, hru, fp⟩, rfl⟩

theorem unionFields_cons (p : Option Nat) (cur ma : Nat) (f : RField) (fs : List RField) :
    unionFields p cur ma (f :: fs) =
      ((f.name, 0) :: (unionFields p (max cur f.size) (max ma (effAlign p f.align)) fs).1,
       (unionFields p (max cur f.size) (max ma (effAlign p f.align)) fs).2) := by
  simp [unionFields]

theorem emitFields_union (force ru : Bool) (B : Nat) (fs : List CField) (idx : Nat) (t : Tracker) (cur : Nat)
    (hinv : UInv t force ru) (hok : unionFieldsOk fs = true) (hle : fieldAlignsLe B fs = true)
    (hB : max 1 t.maxFieldAlign ≤ B) :
    ∃ tE ff offs, emitFields (!ru) idx t fs = (tE, ff) ∧ UInv tE force ru ∧ max 1 tE.maxFieldAlign ≤ B ∧
      ff.any (fun f => f.blob == some .panic) = false ∧
      uo offs = (List.range' idx fs.length).map (·, 0) ∧
      if ru = true then
        unionFields none cur (max 1 t.maxFieldAlign) ff = (offs, max cur (unionMaxSize fs), max 1 tE.maxFieldAlign)
      else placeFields none 0 1 ff = (offs, 0, 1) := by
  fun_induction unionFieldsOk fs generalizing idx t cur with
  | case1 => exact ⟨t, [], [], rfl, hinv, hB, rfl, rfl, by cases ru <;> simp [unionFields, unionMaxSize, placeFields]⟩
  | case2 ty off fs ih =>
    cases hl : ty.layout with
    | none => simp [hl] at hok
    | some fl =>
      simp only [hl, Bool.and_eq_true, decide_eq_true_eq] at hok
      obtain ⟨⟨⟨ha, _⟩, hh⟩, hok'⟩ := hok
      obtain ⟨hle1, hle'⟩ := (fieldAlignsLe_cons B _ fs).mp hle
      obtain ⟨t1, hsaw, hinv1, hm1⟩ := sawField_union hinv ty fl off hl hh
      obtain ⟨tE, ff, offs, hE, hinvE, hBE, hnp, huo, hpl⟩ :=
        ih (idx + 1) t1 (max cur fl.size) hinv1 hok' hle'
          (by rw [hm1, ← Nat.max_assoc]; exact Nat.max_le.mpr ⟨hB, hle1 fl hl⟩)
      refine ⟨tE, memberField (!ru) idx ty :: ff, (.user idx, 0) :: offs, ?_, hinvE, hBE, ?_, ?_, ?_⟩
      · rw [emitFields_data, hsaw, hE]
        rfl
      · rw [List.any_cons, hnp, memberField_blob]
        rfl
      · rw [uo_cons_user, huo, List.length_cons, List.range'_succ, List.map_cons]
      · cases ru with
        | true =>
          simp only [if_true, Bool.not_true] at hpl ⊢
          rw [memberField_plain idx ty fl hl ha, unionFields_cons]
          simp only [effAlign, unionMaxSize, CField.layout, hl]
          rw [Nat.max_assoc 1, ← hm1, hpl, Nat.max_assoc]
        | false =>
          simp only [Bool.false_eq_true, if_false] at hpl ⊢
          rw [show memberField (!false) idx ty = { name := .user idx, size := 0, align := 1 } from rfl, placeFields_cons]
          simp only [effAlign, alignTo_zero_left, Nat.add_zero, Nat.max_self, hpl]
  | case3 => cases hok

theorem hasBitfields_union (c : CAgg) (h : unionFieldsOk c.fields = true) : c.hasBitfields = false := by
  unfold CAgg.hasBitfields
  generalize c.fields = fs at h ⊢
  fun_induction unionFieldsOk fs with
  | case1 => rfl
  | case2 ty off fs ih =>
    simp only [Bool.and_eq_true] at h
    exact ih h.2
  | case3 => cases h

theorem union_tail {t : Tracker} {force ru : Bool} (h : UInv t force ru) (l : Layout)
    (hf : force = false ∨ ru = true) : t.addTailPadding l = (t, none) := by
  unfold Tracker.addTailPadding
  rw [h.fp, h.ru]
  rcases hf with hf | hf <;> subst hf <;> simp

theorem union_layout (o : Opts) (c : CAgg) (h : ClangUnion c = true)
    (hf : o.forcePadding = false ∨ (c.isRustUnion o).1 = true) :
    ∃ r l, emit o c = some r ∧ reprC r = some l ∧
      (∀ cl, c.layout = some cl → l.size = cl.size ∧ l.align = cl.align) ∧
      l.userOffsets.all (fun p => p.2 == 0) = true ∧
      l.userOffsets.map (·.1) = List.range c.fields.length ∧
      r.isUnion = (c.isRustUnion o).1 := by
  unfold ClangUnion at h
  cases hl : c.layout with
  | none => simp [hl] at h
  | some l =>
    simp only [hl, Bool.and_eq_true, Bool.not_eq_true', decide_eq_true_eq, beq_iff_eq, bne_iff_ne, ne_eq,
      List.isEmpty_eq_false_iff, List.isEmpty_iff] at h
    obtain ⟨⟨⟨⟨⟨⟨⟨⟨⟨hiu, hpa⟩, hov⟩, hvt⟩, hbs⟩, hop⟩, hfw⟩, hzs⟩, -⟩, ⟨⟨⟨hal, h3⟩, hle⟩, hok⟩, hsz⟩ := h
    have hpk := isPacked_plain c l hpa hl hov hle
    have hhb := hasBitfields_union c hok
    obtain ⟨tE, ff, offs, hE, hinvE, hBE, hnp, huo, hpl⟩ :=
      emitFields_union o.forcePadding (c.isRustUnion o).1 l.align c.fields 0 (tracker0 o c) 0 ⟨hiu, rfl, rfl⟩ hok hle
        (Nat.max_le.mpr ⟨hal, Nat.zero_le _⟩)
    obtain ⟨huz, hur⟩ : (uo offs).all (fun p => p.2 == 0) = true ∧ (uo offs).map (·.1) = List.range c.fields.length := by
      rw [huo]
      simp [List.range_eq_range', Function.comp_def]
    have hcl : ∀ cl, some l = some cl → l.size = cl.size ∧ l.align = cl.align := by
      intro cl hcl
      cases hcl
      exact ⟨rfl, rfl⟩
    rw [emit_union o c l ⟨hvt, hbs, hop, hfw, hzs, hl⟩ hiu hE (union_tail hinvE l hf)]
    simp only [hinvE.ru, hpk, hhb, padList_none, List.append_nil, Bool.and_false, Bool.false_and, Bool.false_eq_true,
      if_false, Bool.not_false, Bool.and_true]
    cases hru : (c.isRustUnion o).1 with
    | true =>
      simp only [hru, if_true, List.append_nil, hnp] at hpl ⊢
      exact ⟨_, _, rfl, reprC_eq true none _ ff l hpl (Or.inl rfl)
        (explicitAlign_hA hBE fun hR => Nat.le_trans (requiresExplicitAlign_false hR) (Nat.le_max_right _ _))
        hsz.symm, hcl, huz, hur, rfl⟩
    | false =>
      have hmod : l.size % l.align = 0 := by rw [hsz]; exact alignTo_mod _ _ hal
      have hA : max l.align 1 = l.align := Nat.max_eq_left hal
      obtain ⟨b1, b2, b3, b4, -⟩ := blobField_spec .unionField l h3 (by rw [hA]; exact hmod)
      rw [hA] at b3
      generalize blobField .unionField l = BF at b1 b2 b3 b4
      have hfs : ((ff ++ [BF]).any fun f => f.blob == some BlobTy.panic) = false := by
        rw [List.any_append, hnp, List.any_cons, b4]
        rfl
      simp only [hru, Bool.false_eq_true, if_false, hfs] at hpl ⊢
      have huo' : uo (offs ++ [(FName.unionField, 0)]) = uo offs := by
        rw [uo_append]
        exact List.append_nil _
      refine ⟨_, _, rfl, reprC_eq false none _ _ l (offs := offs ++ [(.unionField, 0)]) (placeFields_append hpl ?_)
        (Or.inl rfl) (explicitAlign_hA (Nat.le_refl _) fun _ => Nat.le_refl _) (alignTo_of_mod_eq_zero _ _ hmod),
        hcl, by rw [userOffsets_eq, huo']; exact huz, by rw [userOffsets_eq, huo']; exact hur, rfl⟩
      simp only [placeFields_cons, placeFields_nil, effAlign, alignTo_zero_left, Nat.zero_add, b1, b2, b3,
        Nat.max_eq_right hal]

end BindgenModel.C02

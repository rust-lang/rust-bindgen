import BindgenModel.Model.Analyses
import BindgenModel.Lemmas.Worklist
/-! Lattice facts about the three-point chain and the normal-form rules. -/
namespace BindgenModel.Analyses
open BindgenModel.Worklist

theorem ne_zero_of_le {a b : V} (h : a ≤ b) (ha : a ≠ 0) : b ≠ 0 :=
  fun hb => ha (Fin.le_zero_iff.mp (hb ▸ h))

theorem vmax_le_iff (a b c : V) : vmax a b ≤ c ↔ a ≤ c ∧ b ≤ c := by
  unfold vmax
  split <;> simp only [Fin.le_def] at * <;> omega

theorem le_vmax_left (a b : V) : a ≤ vmax a b :=
  ((vmax_le_iff a b _).mp (Fin.le_refl _)).1

theorem le_vmax_right (a b : V) : b ≤ vmax a b :=
  ((vmax_le_iff a b _).mp (Fin.le_refl _)).2

theorem foldl_vmax_le (l : List V) (init b : V) :
    l.foldl vmax init ≤ b ↔ init ≤ b ∧ ∀ x ∈ l, x ≤ b := by
  induction l generalizing init with
  | nil => simp
  | cons y ys ih => simp only [List.foldl_cons, ih, vmax_le_iff, List.mem_cons, forall_eq_or_imp, and_assoc]

theorem joinList_le (l : List V) (b : V) : joinList l ≤ b ↔ ∀ x ∈ l, x ≤ b := by
  unfold joinList
  rw [foldl_vmax_le]
  exact and_iff_right (Fin.zero_le _)

theorem le_joinList (l : List V) (x : V) (hx : x ∈ l) : x ≤ joinList l :=
  (joinList_le l (joinList l)).mp (Fin.le_refl _) x hx

theorem joinList_map_mono (cs : List Nat) (s s' : Nat → V) (h : ∀ c ∈ cs, s c ≤ s' c) :
    joinList (cs.map s) ≤ joinList (cs.map s') := by
  rw [joinList_le, List.forall_mem_map]
  exact fun c hc => Fin.le_trans (h c hc) (le_joinList _ _ (List.mem_map_of_mem hc))

theorem clauseVal_le (s : Nat → V) (c : List Nat) (b : V) :
    clauseVal s c ≤ b ↔ ((∀ a ∈ c, s a ≠ 0) → b ≠ 0) := by
  have hb : 1 ≤ b ↔ b ≠ 0 := by
    simp only [Fin.le_def, Fin.ext_iff, ne_eq]
    omega
  unfold clauseVal
  simp only [List.all_eq_true, bne_iff_ne]
  split
  · rename_i hall
    exact hb.trans ⟨fun h _ => h, fun h => h hall⟩
  · rename_i hall
    exact iff_of_true (Fin.zero_le _) fun h => absurd h hall

theorem clauseVal_mono (s s' : Nat → V) (c : List Nat) (h : ∀ a ∈ c, s a ≤ s' a) :
    clauseVal s c ≤ clauseVal s' c := by
  rw [clauseVal_le]
  intro hall
  exact (clauseVal_le s' c _).mp (Fin.le_refl _) fun a ha => ne_zero_of_le (h a ha) (hall a ha)

theorem eval_le_iff (r : NodeRule) (s : Nat → V) (b : V) :
    r.eval s ≤ b ↔ r.const ≤ b ∧ (∀ t ∈ r.terms, t.fn.f (joinList (t.children.map s)) ≤ b) ∧
      ∀ c ∈ r.conj, clauseVal s c ≤ b := by
  unfold NodeRule.eval
  simp only [vmax_le_iff, joinList_le, List.forall_mem_map, and_assoc]

theorem eval_mono (r : NodeRule) (s s' : Nat → V) (h : ∀ m ∈ r.reads, s m ≤ s' m) : r.eval s ≤ r.eval s' := by
  obtain ⟨h1, h2, h3⟩ := (eval_le_iff r s' _).mp (Fin.le_refl _)
  rw [eval_le_iff]
  refine ⟨h1, fun t ht => Fin.le_trans (t.fn.mono _ _ (joinList_map_mono t.children s s' fun c hc => ?_)) (h2 t ht),
    fun c hc => Fin.le_trans (clauseVal_mono s s' c fun a ha => ?_) (h3 c hc)⟩
  · exact h c (List.mem_append_left _ (List.mem_flatMap.mpr ⟨t, ht, hc⟩))
  · exact h a (List.mem_append_right _ (List.mem_flatMap.mpr ⟨c, hc, ha⟩))

theorem eval_reads_only (r : NodeRule) (s s' : Nat → V) (h : ∀ m ∈ r.reads, s m = s' m) :
    r.eval s = r.eval s' :=
  Fin.le_antisymm (eval_mono r s s' fun m hm => Fin.le_of_eq (h m hm))
    (eval_mono r s' s fun m hm => Fin.le_of_eq (h m hm).symm)

/-! Proofs about `I.framework` go through these equations: handing a `NodeRule` lemma directly to such a goal
makes the unifier unfold `eval` before it unfolds `framework`. -/

theorem Instance.le_iff (I : Instance) (a b : V) : I.framework.le a b = true ↔ a ≤ b :=
  decide_eq_true_iff

theorem Instance.rule_eq (I : Instance) (s : Nat → V) (n : Nat) :
    I.framework.rule s n = (I.rules.getD n {}).eval s := by
  simp only [Instance.framework]

theorem Instance.stable_iff (I : Instance) (s : Nat → V) (k : Nat) :
    Stable I.framework s k ↔ (I.rules.getD k {}).eval s ≤ s k := by
  unfold Stable
  rw [I.le_iff, I.rule_eq]

theorem Instance.bot_le (I : Instance) (a : V) : I.framework.le I.framework.bot a = true :=
  (I.le_iff _ a).mpr (Fin.zero_le a)

theorem Instance.deps_closed (I : Instance) (hclosed : I.depsClosed = true) :
    ∀ n ∈ I.framework.nodes, ∀ m ∈ I.framework.deps n, m ∈ I.framework.nodes := by
  intro n hn m hm
  simp only [Instance.depsClosed, List.all_eq_true] at hclosed
  exact List.contains_iff_mem.mp (hclosed n hn m hm)

theorem Instance.reads_covered (I : Instance) {n : Nat} (hn : n ∈ I.nodes) (hcov : n ∉ I.uncovered) :
    ∀ m ∈ I.framework.reads n, n ∈ I.framework.deps m := by
  intro m hm
  simp only [Instance.uncovered, List.mem_filter, hn, true_and, Bool.not_eq_true', Bool.not_eq_false,
    List.all_eq_true] at hcov
  exact List.contains_iff_mem.mp (hcov m hm)

theorem Instance.not_mem_uncovered (I : Instance) (hcov : I.readsCovered = true) (n : Nat) : n ∉ I.uncovered := by
  intro h
  simp only [Instance.uncovered, List.mem_filter, Bool.not_eq_true'] at h
  simp only [Instance.readsCovered, List.all_eq_true] at hcov
  exact Bool.false_ne_true (h.2.symm.trans (List.all_eq_true.mpr (hcov n h.1)))

end BindgenModel.Analyses

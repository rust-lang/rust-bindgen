import BindgenModel.Lemmas.Layout
import BindgenModel.Model.LayoutRegions
/-!
# C02: what the record kinds share

Equations of the tracker's methods; `Placed`, in which steps, loops and tails say where `repr(C)` puts the fields
they emit; the end of a struct (`struct_tail`) and `emit` on one (`emit_struct`).
-/
namespace BindgenModel.C02
open BindgenModel.Layout BindgenModel.StructLayout BindgenModel.CompCodegen

theorem sawField_eq_withLayout (t : Tracker) (ty : FieldTy) (fl : Layout) (off : Option Nat)
    (hl : ty.layout = some fl) (hh : arrayHackInactive ty = true) :
    t.sawField ty off = t.sawFieldWithLayout fl off := by
  unfold Tracker.sawField
  rw [hl]
  simp only
  unfold arrayHackInactive at hh
  split
  · rename_i el len he
    rw [he] at hh
    simp only [decide_eq_true_eq] at hh
    rw [if_neg (by omega)]
  · rfl

def afterField (t : Tracker) (fl : Layout) (O : Nat) : Tracker :=
  { t with latestOffset := O + fl.size, latestFieldLayout := some fl,
           maxFieldAlign := max t.maxFieldAlign fl.align, lastFieldWasBitfield := false }

theorem alignToLatestField_only_offset (t : Tracker) (new : Layout) :
    ∃ X, (t.alignToLatestField new).1 = { t with latestOffset := X } := by
  unfold Tracker.alignToLatestField
  split
  · exact ⟨t.latestOffset, rfl⟩
  · split
    · exact ⟨t.latestOffset, rfl⟩
    · simp only
      split
      · exact ⟨t.latestOffset, rfl⟩
      · exact ⟨_, rfl⟩

theorem padStruct_none (t : Tracker) (l : Layout) (hnb : t.lastFieldWasBitfield = false) (ha : 0 < l.align)
    (hs : l.size = alignTo t.latestOffset l.align) : t.padStruct l = (t, none) := by
  have h1 : l.size < t.latestOffset + l.align := hs ▸ alignTo_lt t.latestOffset l.align ha
  have h2 : t.latestOffset ≤ l.size := hs ▸ alignTo_ge t.latestOffset l.align
  unfold Tracker.padStruct
  rw [hnb, if_neg (Nat.not_lt.mpr h2)]
  simp only
  split
  · rfl
  · rw [if_neg]
    simp only [Bool.false_eq_true, false_and, or_false]
    exact Nat.not_le.mpr (Nat.sub_lt_left_of_lt_add h2 h1)

theorem requiresExplicitAlign_iff (t : Tracker) (l : Layout) :
    t.requiresExplicitAlign l = true ↔ 16 ≤ t.maxFieldAlign ∨ t.maxFieldAlign < l.align := by
  unfold Tracker.requiresExplicitAlign
  split
  · simp only [true_iff]
    omega
  · split
    · simp only [Bool.false_eq_true, false_iff]
      omega
    · simp only [true_iff]
      omega

theorem requiresExplicitAlign_false {t : Tracker} {l : Layout} (h : t.requiresExplicitAlign l = false) :
    l.align ≤ t.maxFieldAlign :=
  Nat.le_of_not_lt fun hlt => Bool.eq_false_iff.mp h ((requiresExplicitAlign_iff t l).mpr (Or.inr hlt))

/-- `hA` of `reprC_eq`, for the `align` attribute `emit` computes. -/
theorem explicitAlign_hA {t : Tracker} {l : Layout} {ma : Nat} (hle : ma ≤ l.align)
    (h : t.requiresExplicitAlign l = false → l.align ≤ ma) :
    let A := if t.requiresExplicitAlign l = true then some l.align else none
    (A = none ∧ ma = l.align) ∨ (A = some l.align ∧ ma ≤ l.align) := by
  cases hR : t.requiresExplicitAlign l
  · exact Or.inl ⟨rfl, Nat.le_antisymm hle (h hR)⟩
  · exact Or.inr ⟨rfl, hle⟩

def uo (offs : List (FName × Nat)) : List (Nat × Nat) :=
  offs.filterMap fun (n, o) => match n with | .user i => some (i, o) | _ => none

theorem userOffsets_eq (l : RLayout) : l.userOffsets = uo l.offsets := rfl

theorem uo_cons_user (i o : Nat) (r : List (FName × Nat)) : uo ((.user i, o) :: r) = (i, o) :: uo r := rfl

theorem uo_cons_padding (k o : Nat) (r : List (FName × Nat)) : uo ((.padding k, o) :: r) = uo r := rfl

theorem uo_append (a b : List (FName × Nat)) : uo (a ++ b) = uo a ++ uo b := by
  simp [uo, List.filterMap_append]

def un (offs : List (FName × Nat)) : List (Nat × Nat) :=
  offs.filterMap fun (n, o) => match n with | .unit i => some (i, o) | _ => none

theorem un_cons_unit (i o : Nat) (r : List (FName × Nat)) : un ((.unit i, o) :: r) = (i, o) :: un r := rfl

theorem un_cons_padding (k o : Nat) (r : List (FName × Nat)) : un ((.padding k, o) :: r) = un r := rfl

theorem un_append (a b : List (FName × Nat)) : un (a ++ b) = un a ++ un b := by
  simp [un, List.filterMap_append]

theorem placeFields_cons (p : Option Nat) (cur ma : Nat) (f : RField) (fs : List RField) :
    placeFields p cur ma (f :: fs) =
      ((f.name, alignTo cur (effAlign p f.align)) ::
          (placeFields p (alignTo cur (effAlign p f.align) + f.size) (max ma (effAlign p f.align)) fs).1,
       (placeFields p (alignTo cur (effAlign p f.align) + f.size) (max ma (effAlign p f.align)) fs).2) := by
  simp [placeFields]

theorem placeFields_nil (cur ma : Nat) : placeFields none cur ma [] = ([], cur, ma) := rfl

theorem placeFieldsP_nil (p : Option Nat) (cur ma : Nat) : placeFields p cur ma [] = ([], cur, ma) := rfl

theorem placeFields_append {p : Option Nat} {xs ys : List RField} {cur ma c1 m1 c2 m2 : Nat}
    {o1 o2 : List (FName × Nat)} (h1 : placeFields p cur ma xs = (o1, c1, m1))
    (h2 : placeFields p c1 m1 ys = (o2, c2, m2)) : placeFields p cur ma (xs ++ ys) = (o1 ++ o2, c2, m2) := by
  induction xs generalizing cur ma o1 with
  | nil =>
    cases h1
    exact h2
  | cons x xs ih =>
    rw [placeFields_cons] at h1
    rcases hP : placeFields p _ _ xs with ⟨o, c, m⟩
    rw [hP] at h1
    cases h1
    rw [List.cons_append, placeFields_cons, ih hP]
    rfl

/-- `repr(C)` with packing `p`, continuing at offset `cur` and alignment `ma`, places `ff` to end at `cur'` with
alignment `ma'`, the data members at `us`, the bit-field units at `ns`; `blob` panics on none. -/
def Placed (p : Option Nat) (cur ma : Nat) (ff : List RField) (cur' ma' : Nat) (us ns : List (Nat × Nat)) : Prop :=
  ∃ offs, placeFields p cur ma ff = (offs, cur', ma') ∧ uo offs = us ∧ un offs = ns ∧
    ff.any (fun f => f.blob == some .panic) = false

theorem Placed.nil (p : Option Nat) (cur ma : Nat) : Placed p cur ma [] cur ma [] [] :=
  ⟨[], rfl, rfl, rfl, rfl⟩

theorem Placed.single (p : Option Nat) (cur ma : Nat) (f : RField) (hf : (f.blob == some .panic) = false) :
    Placed p cur ma [f] (alignTo cur (effAlign p f.align) + f.size) (max ma (effAlign p f.align))
      (uo [(f.name, alignTo cur (effAlign p f.align))]) (un [(f.name, alignTo cur (effAlign p f.align))]) :=
  ⟨_, by rw [placeFields_cons]; rfl, rfl, rfl, by rw [List.any_cons, hf]; rfl⟩

theorem Placed.append {p : Option Nat} {xs ys : List RField} {cur ma c1 m1 c2 m2 : Nat} {u1 n1 u2 n2 : List (Nat × Nat)}
    (h1 : Placed p cur ma xs c1 m1 u1 n1) (h2 : Placed p c1 m1 ys c2 m2 u2 n2) :
    Placed p cur ma (xs ++ ys) c2 m2 (u1 ++ u2) (n1 ++ n2) := by
  obtain ⟨o1, hp1, hu1, hn1, hb1⟩ := h1
  obtain ⟨o2, hp2, hu2, hn2, hb2⟩ := h2
  exact ⟨o1 ++ o2, placeFields_append hp1 hp2, by rw [uo_append, hu1, hu2], by rw [un_append, hn1, hn2],
    by rw [List.any_append, hb1, hb2]; rfl⟩

theorem reprC_eq (isU : Bool) (P A : Option Nat) (F : List RField) (L : Layout)
    {offs : List (FName × Nat)} {c' ma : Nat}
    (hpl : (if isU then unionFields P 0 1 F else placeFields P 0 1 F) = (offs, c', ma))
    (hok : P = none ∨ (A = none ∧ F.any (·.containsAlign) = false))
    (hA : (A = none ∧ ma = L.align) ∨ (A = some L.align ∧ ma ≤ L.align)) (hs : alignTo c' L.align = L.size) :
    reprC { isUnion := isU, packed := P, align := A, fields := F } =
      some { size := L.size, align := L.align, offsets := offs } := by
  have h1 : (P.isSome && A.isSome) = false := by
    rcases hok with h | ⟨h, -⟩ <;> simp [h]
  have h2 : (P.isSome && F.any (·.containsAlign)) = false := by
    rcases hok with h | ⟨-, h⟩ <;> simp [h]
  rcases hA with ⟨rfl, rfl⟩ | ⟨rfl, hle⟩
  · simp only [reprC, h1, h2, Bool.false_eq_true, if_false, hpl, hs]
  · simp only [reprC, h1, h2, Bool.false_eq_true, if_false, hpl, Nat.max_eq_right hle, hs]

/-- The padding field `Field::codegen` pushes in front of a member, if any. -/
def padList (pad : Option Pad) : List RField :=
  match pad with
  | some p => [padField p]
  | none => []

theorem padList_none : padList none = [] := rfl

theorem memberField_plain (idx : Nat) (ty : FieldTy) (fl : Layout) (hl : ty.layout = some fl)
    (ha : 1 ≤ fl.align) :
    memberField false idx ty = { name := .user idx, size := fl.size, align := fl.align, containsAlign := ty.containsAlign } := by
  have : max fl.align 1 = fl.align := by omega
  simp [memberField, hl, this]

theorem Placed.member (p : Option Nat) (cur ma idx : Nat) (ty : FieldTy) (fl : Layout) (hl : ty.layout = some fl)
    (ha : 1 ≤ fl.align) :
    Placed p cur ma [memberField false idx ty] (alignTo cur (effAlign p fl.align) + fl.size)
      (max ma (effAlign p fl.align)) [(idx, alignTo cur (effAlign p fl.align))] [] := by
  rw [memberField_plain idx ty fl hl ha]
  exact Placed.single p cur ma _ rfl

theorem memberField_blob (w : Bool) (idx : Nat) (ty : FieldTy) : (memberField w idx ty).blob = none := by
  unfold memberField
  split
  · rfl
  · split <;> rfl

theorem blobField_spec (n : FName) (l : Layout) (h3 : l.align ≠ 3) (hdvd : l.size % (max l.align 1) = 0) :
    (blobField n l).name = n ∧ (blobField n l).size = l.size ∧ (blobField n l).align = max l.align 1 ∧
      ((blobField n l).blob == some .panic) = false ∧ (l.align ≤ 4 → (blobField n l).containsAlign = false) := by
  obtain ⟨h1, h2⟩ := blob_exact l false h3 hdvd
  refine ⟨rfl, h1, h2, by simpa [blobField] using blob_ne_panic l false h3, fun h4 => ?_⟩
  simp only [blobField]
  split
  · rename_i a s hb
    exact absurd hb ((blob_small l false (by omega)).2.2.2 a s)
  · rfl

theorem alignFieldFor_spec (o : Opts) (a : Nat) (hu : o.u64Align ≤ 8) (ha : 0 < a) :
    (alignFieldFor o a).align ≤ a ∧ (alignFieldFor o a).size = 0 ∧ (alignFieldFor o a).name = .bindgenAlign ∧
    (alignFieldFor o a).blob = none := by
  unfold alignFieldFor
  refine ⟨?_, rfl, rfl, rfl⟩
  simp only
  split
  · omega
  · split
    · omega
    · split <;> omega

theorem alignFieldFor_eq (o : Opts) (e : Nat) (hu : o.u64Align = 8) (he : e = 2 ∨ e = 4 ∨ e = 8) :
    alignFieldFor o e = { name := .bindgenAlign, size := 0, align := e } := by
  rcases he with rfl | rfl | rfl <;> simp [alignFieldFor, hu]

theorem emitFields_data (w : Bool) (idx : Nat) (t : Tracker) (ty : FieldTy) (off : Option Nat) (fs : List CField) :
    emitFields w idx t (.data ty off :: fs) =
      ((emitFields w (idx + 1) (t.sawField ty off).1 fs).1,
       padList (t.sawField ty off).2 ++ memberField w idx ty :: (emitFields w (idx + 1) (t.sawField ty off).1 fs).2) := by
  simp only [emitFields]
  cases (t.sawField ty off).2 <;> rfl

theorem emitFields_unit (idx : Nat) (t : Tracker) (n : Nat) (l : Layout) (be : Nat) (sb : Option Nat)
    (fs : List CField) :
    emitFields false idx t (.unit n l be sb :: fs) =
      ((emitFields false (idx + 1) (t.sawBitfieldUnit l) fs).1,
       { name := .unit n, size := l.size, align := 1 } :: (emitFields false (idx + 1) (t.sawBitfieldUnit l) fs).2) := by
  simp [emitFields]

theorem addTailPadding_cases (t : Tracker) (l : Layout) :
    let r := t.paddingField { size := l.size - t.latestOffset, align := 0 }
    t.addTailPadding l = (t, none) ∨ t.latestOffset < l.size ∧ t.addTailPadding l = (r.1, some r.2) := by
  unfold Tracker.addTailPadding
  cases t.forcePadding
  · exact .inl rfl
  · cases t.isRustUnion
    · cases t.lastFieldWasFlexibleArray
      · by_cases h : t.latestOffset ≥ l.size
        · exact .inl (if_pos h)
        · exact .inr ⟨Nat.lt_of_not_le h, if_neg h⟩
      · exact .inl rfl
    · exact .inl rfl

/-- The last field is no bit-field unit: `add_tail_padding` pads with bytes (under `--explicit-padding` only),
`pad_struct` adds nothing. -/
theorem struct_tail (t : Tracker) (l : Layout) (p : Option Nat) (ma : Nat)
    (hnb : t.lastFieldWasBitfield = false) (hal : 0 < l.align)
    (hs : l.size = alignTo t.latestOffset l.align) (hp : effAlign p 1 = 1) (hma : 1 ≤ ma) :
    ∃ t2 p2 c', t.addTailPadding l = (t2, p2) ∧ t2.padStruct l = (t2, none) ∧
      t2.maxFieldAlign = t.maxFieldAlign ∧ (padList p2).any (·.containsAlign) = false ∧
      Placed p t.latestOffset ma (padList p2) c' ma [] [] ∧ alignTo c' l.align = l.size := by
  rcases addTailPadding_cases t l with hT | ⟨hlt, hT⟩
  · exact ⟨t, none, t.latestOffset, hT, padStruct_none t l hnb hal hs, rfl, rfl, Placed.nil _ _ _, hs.symm⟩
  · obtain ⟨-, h2, h3, h4, h5⟩ := blobField_spec (.padding t.paddingCount)
      { size := l.size - t.latestOffset, align := 0 } (by simp) (Nat.mod_one _)
    have hpl := Placed.single p t.latestOffset ma _ h4
    simp only [h2, h3, Nat.zero_max, hp, alignTo_of_mod_eq_zero _ _ (Nat.mod_one _), Nat.max_eq_left hma,
      Nat.add_sub_cancel' (Nat.le_of_lt hlt)] at hpl
    refine ⟨_, _, l.size, hT, padStruct_none _ l hnb hal hs, Nat.max_zero _, ?_, hpl, ?_⟩
    · simp only [Tracker.paddingField, padList, padField, List.any_cons, h5 (Nat.zero_le _), List.any_nil,
        Bool.or_false]
    · rw [hs, alignTo_idem]

theorem fieldAlignsLe_cons (B : Nat) (f : CField) (fs : List CField) :
    fieldAlignsLe B (f :: fs) = true ↔ (∀ l, f.layout = some l → l.align ≤ B) ∧ fieldAlignsLe B fs = true := by
  simp only [fieldAlignsLe, List.all_cons, Bool.and_eq_true]
  cases f.layout <;> simp

theorem isPacked_plain (c : CAgg) (l : Layout) (hpa : c.packedAttr = false) (hl : c.layout = some l)
    (hv : c.hasOwnVirtual = false) (hle : fieldAlignsLe l.align c.fields = true) : c.isPacked = false := by
  unfold CAgg.isPacked
  simp only [hpa, hl, hv, Bool.false_eq_true, if_false, Bool.false_and]
  rw [if_neg]
  simp only [Bool.not_eq_true]
  unfold fieldAlignsLe at hle
  rw [List.any_eq_false]
  intro f hf
  have := List.all_eq_true.mp hle f hf
  cases hfl : f.layout with
  | none => simp
  | some x =>
    simp only [hfl, decide_eq_true_eq] at this
    simp only [gt_iff_lt, decide_eq_true_eq]
    omega

theorem isRustUnion_struct (o : Opts) (c : CAgg) (h : c.isUnion = false) : c.isRustUnion o = (false, false) := by
  simp [CAgg.isRustUnion, h]

def tracker0 (o : Opts) (c : CAgg) : Tracker :=
  { isPacked := c.isPacked, knownTypeLayout := c.layout, isRustUnion := (c.isRustUnion o).1,
    compIsUnion := c.isUnion, forcePadding := o.forcePadding, ptrSize := o.ptrSize }

structure Simple (c : CAgg) (l : Layout) : Prop where
  vt : c.hasVtablePtr = false
  bs : c.bases = []
  op : c.isOpaque = false
  fw : c.forwardDecl = false
  zs : c.zeroSized = false
  lay : c.layout = some l

theorem emit_struct (o : Opts) (c : CAgg) (l : Layout) (hc : Simple c l) (hiu : c.isUnion = false)
    {tE t2 t3 : Tracker} {ff : List RField} {p2 p3 : Option Pad}
    (hE : emitFields false 0 (tracker0 o c) c.fields = (tE, ff))
    (hT : tE.addTailPadding l = (t2, p2)) (hP : t2.padStruct l = (t3, p3)) :
    emit o c =
      let fs := ff ++ padList p2 ++ padList p3
      let ea := t3.requiresExplicitAlign l
      let explicit := ea && !decide (l.align = 1)
      let front := explicit && c.hasBitfields && decide (l.align ≤ 8)
      let fs' := if front then alignFieldFor o l.align :: fs else fs
      if fs'.any (fun f => f.blob == some .panic) then none else
      some { isUnion := false
             packed := if (c.isPacked || ea && decide (l.align = 1)) && !(explicit && c.alreadyPacked.getD false)
                       then some l.align else none
             align := if explicit && !front then some l.align else none
             fields := fs' } := by
  obtain ⟨hvt, hbs, hop, hfw, hzs, hl⟩ := hc
  have hru := isRustUnion_struct o c hiu
  simp only [tracker0, hru, hiu, hl] at hE
  unfold emit
  simp only [hru, hiu, hl, hop, hvt, hbs, hfw, hzs, emitBases, hE, hT, hP, Tracker.tailPaddingUnderflows,
    Bool.false_and, Bool.and_false, Bool.false_eq_true, if_false, Bool.not_false, List.nil_append, Bool.and_self, if_true]
  cases t3.requiresExplicitAlign l
  · simp only [Bool.false_eq_true, if_false, Bool.false_and, Bool.or_false, Option.isSome_none, Bool.not_false,
      Bool.and_true]
    rfl
  · by_cases h1 : l.align = 1
    · simp only [h1, if_true, Bool.true_and, decide_true, Bool.not_true, Bool.false_and, Bool.or_true, Option.isSome_none,
        Bool.not_false, Bool.false_eq_true, if_false]
      rfl
    · simp only [h1, if_true, if_false, Bool.true_and, decide_false, Bool.not_false, Bool.or_false, Option.isSome_some,
        Bool.and_true]
      cases c.hasBitfields && decide (l.align ≤ 8) <;> rfl

end BindgenModel.C02

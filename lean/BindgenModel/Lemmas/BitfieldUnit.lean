import BindgenModel.Model.BitfieldUnit
/-!
The accessor arithmetic bit by bit, generic in the word width `W`: the accumulate loop (`gather_bit`), the store loop
(`store_bit`), and through them `getW_bit` and `setW_bit`, on which `Props/C03.lean` rests.
-/
namespace BindgenModel.BitfieldUnit

theorem bitAt_byte (s : List Byte) (b r : Nat) (hr : r < 8) :
    bitAt s (8 * b + r) = (s.getD b 0).getLsbD r := by
  unfold bitAt
  rw [Nat.mul_add_div (by decide), Nat.mul_add_mod, Nat.div_eq_of_lt hr, Nat.mod_eq_of_lt hr,
    Nat.add_zero]

theorem getD_getLsbD (s : List Byte) (b r : Nat) :
    (s.getD b 0).getLsbD r = (decide (r < 8) && bitAt s (8 * b + r)) := by
  by_cases hr : r < 8
  · rw [bitAt_byte s b r hr, decide_eq_true hr, Bool.true_and]
  · rw [BitVec.getLsbD_of_ge _ r (Nat.le_of_not_lt hr), decide_eq_false hr, Bool.false_and]

theorem bytesNeeded_bounds (W w shift : Nat) (hW : W % 8 = 0) (hfit : w + shift ≤ W) :
    w + shift ≤ 8 * ((w + shift + 7) / 8) ∧ 8 * ((w + shift + 7) / 8) ≤ W := by
  omega

theorem decide_and_congr {p : Prop} [Decidable p] {a b : Bool} (h : p → a = b) :
    (decide p && a) = (decide p && b) := by
  by_cases hp : p
  · rw [h hp]
  · rw [decide_eq_false hp, Bool.false_and, Bool.false_and]

theorem gather_bit (W : Nat) (s : List Byte) (start : Nat) :
    ∀ k, 8 * k ≤ W → ∀ i, i < W →
      (gather W s start k).getLsbD i = (decide (i < 8 * k) && bitAt s (8 * start + i)) := by
  intro k
  induction k with
  | zero =>
    intro _ i _
    simp [gather]
  | succ k ih =>
    intro hk i hi
    have hmod : 8 * k % W = 8 * k := Nat.mod_eq_of_lt (by omega)
    simp only [gather, shlW, Nat.mul_comm k 8, hmod, BitVec.getLsbD_or, ih (by omega) i hi,
      BitVec.getLsbD_shiftLeft, BitVec.getLsbD_setWidth, getD_getLsbD]
    by_cases h1 : i < 8 * k
    · simp [h1, Nat.lt_of_lt_of_le h1 (Nat.mul_le_mul_left 8 (Nat.le_succ k))]
    · -- the new byte: write `i = 8 * k + r`, so that no subtraction is left
      obtain ⟨r, rfl⟩ : ∃ r, i = 8 * k + r := ⟨i - 8 * k, by omega⟩
      simp [h1, hi, Nat.lt_of_le_of_lt (Nat.le_add_left r (8 * k)) hi, Nat.mul_add, Nat.add_assoc]

theorem one_shl_sub_one (W w : Nat) (hW : 0 < W) :
    (1#W <<< w) - 1#W = BitVec.ofNat W (2 ^ w - 1) := by
  have h1 : 1 < 2 ^ W := Nat.one_lt_two_pow (by omega)
  have e : 1#W <<< w = BitVec.ofNat W (2 ^ w) := by
    apply BitVec.eq_of_toNat_eq
    simp [Nat.shiftLeft_eq, Nat.mod_eq_of_lt h1]
  rw [e]
  exact BitVec.ofNat_sub_ofNat_of_le (2 ^ w) 1 h1 Nat.one_le_two_pow

theorem lowMask_bit (W w i : Nat) (hw : w ≤ W) : (lowMask W w).getLsbD i = decide (i < w) := by
  unfold lowMask
  split
  · rename_i h
    rw [one_shl_sub_one W w (by omega), BitVec.getLsbD_ofNat, Nat.testBit_two_pow_sub_one]
    by_cases hi : i < w
    · simp [hi, Nat.lt_trans hi h]
    · simp [hi]
  · rename_i h
    rw [BitVec.getLsbD_allOnes, Nat.le_antisymm hw (Nat.le_of_not_lt h)]

/-- Start byte, bit shift and byte count are variables, so that the arithmetic is linear; the divisions by 8 come in
only in `getW_bit`.  Likewise `store_field_bit`. -/
theorem gather_field_bit {W : Nat} (s : List Byte) (start shift w need : Nat)
    (hneed : w + shift ≤ 8 * need) (h8 : 8 * need ≤ W) (i : Nat) :
    ((gather W s start need >>> shift) &&& lowMask W w).getLsbD i =
      (decide (i < w) && bitAt s (8 * start + shift + i)) := by
  rw [BitVec.getLsbD_and, BitVec.getLsbD_ushiftRight,
    lowMask_bit W w i (Nat.le_trans (Nat.le_of_add_right_le hneed) h8), Bool.and_comm]
  refine decide_and_congr fun hiw => ?_
  rw [gather_bit W s start need h8 _ (by omega), decide_eq_true (show shift + i < 8 * need by omega),
    Bool.true_and, Nat.add_assoc]

theorem getW_bit (W : Nat) (hW : W % 8 = 0) (s : List Byte) (off w : Nat)
    (hfit : w + off % 8 ≤ W) (i : Nat) :
    (getW W s off w).getLsbD i = (decide (i < w) && bitAt s (off + i)) := by
  unfold getW
  split
  · rename_i h
    subst h
    simp
  · obtain ⟨hneed, h8⟩ := bytesNeeded_bounds W w (off % 8) hW hfit
    have := gather_field_bit s (off / 8) (off % 8) w _ hneed h8 i
    rwa [Nat.div_add_mod] at this

theorem store_length {W : Nat} (s : List Byte) (start : Nat) (val mask : BitVec W) (k : Nat) :
    (store s start val mask k).length = s.length := by
  induction k with
  | zero => rfl
  | succ k ih => simp [store, ih]

theorem bitAt_set_byte (l : List Byte) (p : Nat) (x : Byte) (hp : p < l.length) (b r : Nat) (hr : r < 8) :
    bitAt (l.set p x) (8 * b + r) = if p = b then x.getLsbD r else bitAt l (8 * b + r) := by
  rw [bitAt_byte _ b r hr, bitAt_byte _ b r hr, List.getD_eq_getElem?_getD, List.getElem?_set, if_pos hp]
  split
  · rfl
  · rw [List.getD_eq_getElem?_getD]

theorem store_bit {W : Nat} (s : List Byte) (start : Nat) (val mask : BitVec W) (k : Nat)
    (h8 : 8 * k ≤ W) (hin : start + k ≤ s.length) (j : Nat) :
    bitAt (store s start val mask k) j =
      if 8 * start ≤ j ∧ j < 8 * (start + k) ∧ mask.getLsbD (j - 8 * start) then
        val.getLsbD (j - 8 * start)
      else bitAt s j := by
  induction k with
  | zero =>
    rw [if_neg (by omega)]
    rfl
  | succ k ih =>
    have ih := ih (by omega) (by omega)
    have hlen : start + k < (store s start val mask k).length := by
      rw [store_length]
      omega
    obtain ⟨b, r, hr, rfl⟩ : ∃ b r, r < 8 ∧ j = 8 * b + r :=
      ⟨j / 8, j % 8, Nat.mod_lt _ (by decide), (Nat.div_add_mod j 8).symm⟩
    rw [store, bitAt_set_byte _ _ _ hlen b r hr, ih]
    by_cases hb : start + k = b
    · -- the byte written in this iteration, over what is still the content of `s`
      subst hb
      have hmod : 8 * k % W = 8 * k := Nat.mod_eq_of_lt (by omega)
      have hsub : 8 * (start + k) + r - 8 * start = 8 * k + r := by
        rw [Nat.mul_add, Nat.add_assoc, Nat.add_sub_cancel_left]
      rw [if_pos rfl, hsub]
      simp only [BitVec.getLsbD_or, BitVec.getLsbD_and, BitVec.getLsbD_not, BitVec.getLsbD_setWidth, shrW,
        BitVec.getLsbD_ushiftRight, Nat.mul_comm k 8, hmod, hr, decide_true, Bool.true_and,
        ← bitAt_byte _ _ r hr]
      rw [ih, if_neg (by omega)]
      have hwin : 8 * start ≤ 8 * (start + k) + r ∧ 8 * (start + k) + r < 8 * (start + (k + 1)) := by omega
      cases mask.getLsbD (8 * k + r) <;> simp [hwin]
    · rw [if_neg hb]
      simp only [show 8 * b + r < 8 * (start + k) ↔ 8 * b + r < 8 * (start + (k + 1)) by omega]

/-- The mask `set` builds; its first branch is there to avoid `1 << w` for `w = W`. -/
theorem fieldMask_eq (W w shift : Nat) :
    (if w + shift ≥ W then (BitVec.allOnes W) <<< shift else ((1#W <<< w) - 1#W) <<< shift) =
      lowMask W w <<< shift := by
  split
  · apply BitVec.eq_of_getLsbD_eq
    intro i hi
    by_cases hw : w < W
    · -- `i - shift < W - shift ≤ w`
      rw [BitVec.getLsbD_shiftLeft, BitVec.getLsbD_shiftLeft, BitVec.getLsbD_allOnes,
        lowMask_bit W w _ (by omega), decide_eq_true (show i - shift < W by omega)]
      by_cases h : i < shift
      · simp [h]
      · rw [decide_eq_true (show i - shift < w by omega)]
    · rw [lowMask, if_neg hw]
  · rw [lowMask, if_pos (by omega)]

theorem store_field_bit {W : Nat} (s : List Byte) (start shift w need : Nat) (v : BitVec W)
    (hneed : w + shift ≤ 8 * need) (h8 : 8 * need ≤ W) (hin : start + need ≤ s.length) (j : Nat) :
    bitAt (store s start ((v &&& lowMask W w) <<< shift) (lowMask W w <<< shift) need) j =
      if 8 * start + shift ≤ j ∧ j < 8 * start + shift + w then v.getLsbD (j - (8 * start + shift))
      else bitAt s j := by
  rw [store_bit _ _ _ _ _ h8 hin]
  simp only [BitVec.getLsbD_shiftLeft, BitVec.getLsbD_and,
    lowMask_bit W w _ (Nat.le_trans (Nat.le_of_add_right_le hneed) h8), Nat.sub_sub]
  by_cases hj : 8 * start + shift ≤ j ∧ j < 8 * start + shift + w
  · have hv : 8 * start ≤ j ∧ j < 8 * (start + need) ∧ ¬ j - 8 * start < shift ∧ j - 8 * start < W ∧
        j - (8 * start + shift) < w := by omega
    simp [hj, hv]
  · rw [if_neg hj, if_neg]
    simp only [Bool.and_eq_true, Bool.not_eq_true', decide_eq_true_eq, decide_eq_false_iff_not]
    omega

theorem setW_length (W : Nat) (s : List Byte) (off w : Nat) (v : BitVec W) :
    (setW W s off w v).length = s.length := by
  unfold setW
  split
  · rfl
  · exact store_length _ _ _ _ _

theorem setW_bit (W : Nat) (hW : W % 8 = 0) (s : List Byte) (off w : Nat) (v : BitVec W)
    (hfit : w + off % 8 ≤ W) (hin : (off + w + 7) / 8 ≤ s.length) (j : Nat) :
    bitAt (setW W s off w v) j =
      if off ≤ j ∧ j < off + w then v.getLsbD (j - off) else bitAt s j := by
  unfold setW
  split
  · rename_i h
    subst h
    rw [if_neg (by omega)]
  · obtain ⟨hneed, h8⟩ := bytesNeeded_bounds W w (off % 8) hW hfit
    have := store_field_bit s (off / 8) (off % 8) w _ v hneed h8 (by omega) j
    rwa [Nat.div_add_mod, ← fieldMask_eq] at this

end BindgenModel.BitfieldUnit

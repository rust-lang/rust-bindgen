import BindgenModel.Model.Lower
/-! Helper lemmas for C04 (signature lowering): `cOf ∘ lower = norm`, and `norm` is the identity on normal forms. -/
namespace BindgenModel.Lower

theorem lowerRet_eq (d : Bool) (t : CTy) :
    lowerRet d t = if d then .never else if isVoid (canon t) then .unit else lowerTy t := by
  cases t <;> cases d <;> rfl

theorem normRet_eq (d : Bool) (t : CTy) :
    normRet d t = if d then .void else if isVoid (canon t) then .void else norm t := by
  cases t <;> cases d <;> rfl

/-- Stated with the type position as a hypothesis so that the induction below can use it on a subterm. -/
theorem cOf_lowerRet_of_cOf_lowerTy {t : CTy} (h : cOf (lowerTy t) = norm t) (d : Bool) :
    cOf (lowerRet d t) = normRet d t := by
  rw [lowerRet_eq, normRet_eq]
  split
  · rfl
  · split
    · rfl
    · exact h

mutual
theorem cOf_lowerTy : ∀ t : CTy, cOf (lowerTy t) = norm t
  | .void | .scalar _ | .comp _ => rfl
  | .alias id t => congrArg (CTy.alias id) (cOf_lowerTy t)
  | .ptr pc t => by
    simp only [lowerTy, norm]
    split
    · exact cOf_lowerTy t
    · exact congrArg (CTy.ptr pc) (cOf_lowerTy t)
  | .array ec t n => congrArg (CTy.array false · n) (cOf_lowerTy t)
  | .func r as v d => by simp [lowerTy, cOf, norm, cOf_lowerRet_of_cOf_lowerTy (cOf_lowerTy r), cOfs_lowerParams as]
theorem cOf_paramArr (c : Bool) : ∀ t : CTy, (paramArr c t).map cOf = adjArr c t
  | .alias id t => cOf_paramArr c t
  | .array ec e n => by simp [paramArr, adjArr, cOf, cOf_lowerTy e]
  | .void | .scalar _ | .comp _ | .ptr .. | .func .. => rfl
theorem cOfs_lowerParams : ∀ as : CTys, cOfs (lowerParams as) = normParams as
  | .nil => rfl
  | .cons c t rest => by
    simp only [lowerParams, cOfs, normParams, cOfs_lowerParams rest, ← Option.getD_map, cOf_paramArr c t,
      cOf_lowerTy t]
end

theorem isFunc_canon_alias (id : Nat) (t : CTy) : isFunc (canon (.alias id t)) = isFunc (canon t) := rfl

mutual
theorem norm_of_NF : ∀ t : CTy, NF t = true → norm t = t
  | .void, _ | .scalar _, _ | .comp _, _ => rfl
  | .alias id t, h => congrArg (CTy.alias id) (norm_of_NF t h)
  | .ptr pc t, h => norm_ptr_of_NFpt pc t h
  | .array ec t n, h => by
    simp [NF] at h
    rw [norm, norm_of_NF t h.2, h.1]
  | .func r as v d, h => by simp [NF] at h
theorem norm_ptr_of_NFpt : ∀ (pc : Bool) (t : CTy), NFpt pc t = true → norm (.ptr pc t) = .ptr pc t
  | pc, .func r as v d, h => by
    simp [NFpt] at h
    obtain ⟨⟨⟨rfl, rfl⟩, h3⟩, h4⟩ := h
    simp [norm, canon, isFunc, normRet_of_NFRet r h3, normParams_of_NFs as h4]
  | pc, .void, _ | pc, .scalar _, _ | pc, .comp _, _ => rfl
  | pc, .alias id t, h => by
    simp [NFpt] at h
    simp [norm, canon, h.1, norm_of_NF t h.2]
  | pc, .ptr pc' t, h => congrArg (CTy.ptr pc) (norm_ptr_of_NFpt pc' t h)
  | pc, .array ec t n, h => by
    simp [NFpt] at h
    simp [norm, canon, isFunc, norm_of_NF t h.2, h.1]
theorem normRet_of_NFRet : ∀ t : CTy, NFRet t = true → normRet false t = t
  | .void, _ | .scalar _, _ | .comp _, _ => rfl
  | .alias id t, h => by
    simp [NFRet] at h
    simp [normRet, h.1, norm_of_NF t h.2]
  | .ptr pc t, h => norm_ptr_of_NFpt pc t h
  | .array ec t n, h => by
    simp [NFRet] at h
    simp [normRet, norm_of_NF t h.2, h.1]
  | .func r as v d, h => by simp [NFRet] at h
theorem normParams_of_NFs : ∀ as : CTys, NFs as = true → normParams as = as
  | .nil, _ => rfl
  | .cons c t rest, h => by
    simp [NFs] at h
    obtain ⟨⟨⟨rfl, h2⟩, h3⟩, h4⟩ := h
    simp [normParams, h2, norm_of_NF t h3, normParams_of_NFs rest h4]
end

end BindgenModel.Lower

import BindgenModel.Model.CDecl
/-! Lemmas for C16: token view of the serializer, the declarator the printed text denotes,
and correctness of the reference parser on printed declarators. -/
namespace BindgenModel.CDecl

@[simp] theorem toks_nil : toks [] = [] := rfl
@[simp] theorem toks_append (a b : List Piece) : toks (a ++ b) = toks a ++ toks b := by
  simp [toks, List.filterMap_append]
theorem toks_cons_some {p : Piece} {t : Tok} (r : List Piece) (h : p.tok = some t) :
    toks (p :: r) = t :: toks r := by
  simp [toks, h]
@[simp] theorem toks_pSp (r : List Piece) : toks (pSp :: r) = toks r := by
  simp [toks, pSp]
@[simp] theorem toks_pConst (r) : toks (pConst :: r) = .kconst :: toks r := toks_cons_some r rfl
@[simp] theorem toks_pBase (b r) : toks (pBase b :: r) = .ty b :: toks r := toks_cons_some r rfl
@[simp] theorem toks_pStar (c r) : toks (pStar c :: r) = .star c :: toks r := toks_cons_some r rfl
@[simp] theorem toks_pId (s r) : toks (pId s :: r) = .id s :: toks r := toks_cons_some r rfl
@[simp] theorem toks_pArr (n r) : toks (pArr n :: r) = .arr n :: toks r := toks_cons_some r rfl
@[simp] theorem toks_pArrT (n r) : toks (pArrT n :: r) = .arr n :: toks r := toks_cons_some r rfl
@[simp] theorem toks_pFnConst (r) : toks (pFnConst :: r) = .kconst :: toks r := toks_cons_some r rfl
@[simp] theorem toks_pFnOpen (r) : toks (pFnOpen :: r) = .lpar :: toks r := toks_cons_some r rfl
@[simp] theorem toks_pFnClose (r) : toks (pFnClose :: r) = .rpar :: toks r := toks_cons_some r rfl
@[simp] theorem toks_pFnVoid (r) : toks (pFnVoid :: r) = .voidp :: toks r := toks_cons_some r rfl
@[simp] theorem toks_pArgsOpen (r) : toks (pArgsOpen :: r) = .lpar :: toks r := toks_cons_some r rfl
@[simp] theorem toks_pArgsClose (r) : toks (pArgsClose :: r) = .rpar :: toks r := toks_cons_some r rfl
@[simp] theorem toks_pSep (r) : toks (pSep :: r) = .comma :: toks r := toks_cons_some r rfl
@[simp] theorem toks_pParOpen (r) : toks (pParOpen :: r) = .lpar :: toks r := toks_cons_some r rfl
@[simp] theorem toks_pParClose (r) : toks (pParClose :: r) = .rpar :: toks r := toks_cons_some r rfl

@[simp] theorem toks_constP (c : Bool) : toks (constP c) = if c then [.kconst] else [] := by
  cases c <;> simp [constP]

@[simp] theorem toks_flush (st : List (List Piece)) : toks (flush st) = toks st.flatten := by
  cases st <;> simp [flush]

theorem startsStar_append (x y : List Piece) :
    startsStar (x ++ y) = if x.isEmpty then startsStar y else startsStar x := by
  cases x <;> rfl

theorem toks_arrDecl (d : List Piece) (n : Nat) :
    toks (arrDecl d n) = (if startsStar d then .lpar :: (toks d ++ [.rpar]) else toks d) ++ [.arr n] := by
  unfold arrDecl
  cases hs : startsStar d
  · cases hd : d.isEmpty
    · simp [hd]
    · simp [List.isEmpty_iff.mp hd]
  · simp

theorem startsStar_arrDecl (d : List Piece) (n : Nat) : startsStar (arrDecl d n) = false := by
  unfold arrDecl
  cases hs : startsStar d
  · cases hd : d.isEmpty
    · simp [hd, startsStar_append, hs]
    · simp [hd, startsStar, pArrT]
  · simp [startsStar, pParOpen]

theorem baseLike_ptrBase : ∀ (t : CType), baseLike t = true → ptrBase t = true
  | .base _ _, _ => rfl
  | .tref true _, h => h
  | .tref false t, h => baseLike_ptrBase t h
  | .ptr _ _, h | .array _ _, h | .func _ _ _ _, h | .other, h => by simp [baseLike] at h

theorem leaf_form (a : Bool) (t : CType) (h : baseLike t = true) :
    ∃ k b, den t = .base (decide (0 < k)) b ∧
      ∀ st, toks (serP a t st) = List.replicate k .kconst ++ .ty b :: toks st.flatten := by
  fun_induction baseLike t with
  | case1 c b => exact ⟨if c then 1 else 0, b, by cases c <;> simp [den], fun st => by cases c <;> simp [serP]⟩
  | case2 c t ih =>
    obtain ⟨k, b, hd, hs⟩ := ih h
    cases c
    · exact ⟨k, b, by simp [den, hd], fun st => by simp [serP, hs]⟩
    · exact ⟨k + 1, b, by simp [den, hd, addConst], fun st => by simp [serP, hs, List.replicate_succ]⟩
  | case3 => simp at h

theorem ptrBase_tref : ∀ {c : Bool} {t : CType}, ptrBase (.tref c t) = true → ptrBase t = true
  | false, _, h => h
  | true, t, h => baseLike_ptrBase t h

theorem serP_ptrBase_snoc (a : Bool) (x : List Piece) : ∀ (t : CType) (st : List (List Piece)), ptrBase t = true →
    toks (serP a t st) ++ toks x = toks (serP a t (st ++ [x]))
  | .base _ _, _, _ => by simp [serP]
  | .ptr c t, st, h => serP_ptrBase_snoc a x t ([pStar c] :: st) h
  | .tref c t, st, h => by simp [serP, ← serP_ptrBase_snoc a x t st (ptrBase_tref h)]
  | .array _ _, _, h | .func _ _ _ _, _, h | .other, _, h => by simp [ptrBase] at h

theorem defect_ptrBase_ctx (a : Bool) (c1 c2 : Ctx) : ∀ (t : CType), ptrBase t = true →
    defect a c1 t = defect a c2 t
  | .base _ _, _ | .ptr _ _, _ => rfl
  | .tref c t, h => by simp [defect, defect_ptrBase_ctx a c1 c2 t (ptrBase_tref h)]
  | .array _ _, h | .func _ _ _ _, h | .other, h => by simp [ptrBase] at h

def printD (a : Bool) : Decl → List Tok
  | .nm none => []
  | .nm (some s) => [.id s]
  | .ptr c d => .star c :: printD a d
  | .arr d n => printD a d ++ [.arr n]
  | .fn d ps => printD a d ++ toks (serPs a ps)
  | .paren d => .lpar :: printD a d ++ [.rpar]

def isPtr : Decl → Bool
  | .ptr _ _ => true
  | _ => false

/-- the printed form starts with `*`, `(` or an identifier -/
def headOK : Decl → Bool
  | .nm none => false
  | .nm (some _) => true
  | .ptr _ _ => true
  | .arr d _ => headOK d
  | .fn d _ => headOK d
  | .paren _ => true

/-- the declarator the parser returns: parameter lists hold the denoted types -/
def denD : Decl → Decl
  | .nm n => .nm n
  | .ptr c d => .ptr c (denD d)
  | .arr d n => .arr (denD d) n
  | .fn d ps => .fn (denD d) (denPs ps)
  | .paren d => .paren (denD d)

/-- what may follow a parameter declaration -/
inductive RestOK : List Tok → Prop
  | nil : RestOK []
  | rpar (r : List Tok) : RestOK (.rpar :: r)
  | comma (r : List Tok) : RestOK (.comma :: r)

/-- `parseParams` reads back what `serPs` printed after its `(`.  Says nothing of the empty list, printed
    `(void)`: one token, which `parseSuf` reads by itself (`parseSuf_serPs`). -/
def ParsesBack (a : Bool) (ps : Params) : Prop :=
  ∀ (rest P : List Tok) (f : Nat), toks (serPs a ps) = .lpar :: P → 2 * P.length + 2 ≤ f →
    parseParams f (P ++ rest) = some (denPs ps, rest)

theorem isPtr_headOK {D : Decl} (h : isPtr D = true) : headOK D = true := by
  cases D <;> simp_all [isPtr, headOK]

theorem startsGroup_of_headOK (a : Bool) : ∀ (D : Decl) (x : List Tok), headOK D = true →
    startsGroup (printD a D ++ x) = true
  | .nm none, _, h => by simp [headOK] at h
  | .nm (some _), _, _ | .ptr _ _, _, _ | .paren _, _, _ => by simp [printD, startsGroup]
  | .arr d n, x, h => by
    simpa [printD] using startsGroup_of_headOK a d (.arr n :: x) (by simpa [headOK] using h)
  | .fn d ps, x, h => by
    simpa [printD] using startsGroup_of_headOK a d (toks (serPs a ps) ++ x) (by simpa [headOK] using h)

theorem RestOK.not_startsGroup {r : List Tok} (h : RestOK r) : startsGroup r = false := by
  cases h <;> rfl

theorem parseSuf_stop (d : Decl) {rest : List Tok} (h : RestOK rest) (f : Nat) :
    parseSuf (f + 1) d rest = some (d, rest) := by
  cases h <;> rfl

theorem parseDtor_abs {rest : List Tok} (h : startsGroup rest = false) (f : Nat) :
    parseDtor (f + 1) rest = parseSuf f (.nm none) rest := by
  cases rest with
  | nil => simp [parseDtor]
  | cons t r => cases t <;> simp_all [startsGroup, parseDtor]

theorem parseSuf_serPs {a : Bool} {ps : Params} (hp : ParsesBack a ps) (d : Decl) (rest : List Tok) (f : Nat)
    (hf : 2 * (toks (serPs a ps)).length ≤ f) :
    parseSuf (f + 1) d (toks (serPs a ps) ++ rest) = parseSuf f (.fn d (denPs ps)) rest := by
  cases ps with
  | nil => simp [serPs, parseSuf, denPs]
  | cons n t r =>
    obtain ⟨P, hP⟩ : ∃ P, toks (serPs a (.cons n t r)) = .lpar :: P := ⟨_, by simp [serPs]; rfl⟩
    rw [hP] at hf ⊢
    simp only [List.cons_append, parseSuf, hp rest P f hP (by simp at hf; omega)]

/-- After a printed direct declarator the parser is in its suffix loop, holding the declarator read so
    far, and has spent at most two units of fuel per token and one more. -/
def ReadsDirect (a : Bool) (D : Decl) : Prop :=
  ∀ (rest : List Tok) (f : Nat), (D = .nm none → startsGroup rest = false) →
    2 * (printD a D).length + 2 ≤ f →
    ∃ g, f ≤ g + 2 * (printD a D).length + 1 ∧ parseDtor f (printD a D ++ rest) = parseSuf g (denD D) rest

def Reads (a : Bool) (D : Decl) : Prop :=
  ∀ (rest : List Tok) (f : Nat), RestOK rest → 2 * (printD a D).length + 3 ≤ f →
    parseDtor f (printD a D ++ rest) = some (denD D, rest)

theorem ReadsDirect.nm (a : Bool) (n : Option Name) : ReadsDirect a (.nm n) := by
  intro rest f habs hf
  obtain ⟨f', rfl⟩ := Nat.exists_eq_add_one.mpr (Nat.zero_lt_of_lt hf)
  refine ⟨f', by omega, ?_⟩
  cases n with
  | none => exact parseDtor_abs (habs rfl) f'
  | some s => rfl

section
variable {a : Bool} {D : Decl}

theorem ReadsDirect.reads (h : ReadsDirect a D) : Reads a D := by
  intro rest f hr hf
  obtain ⟨g, hg, e⟩ := h rest f (fun _ => hr.not_startsGroup) (by omega)
  obtain ⟨g', rfl⟩ := Nat.exists_eq_add_one.mpr (show 0 < g by omega)
  rw [e, parseSuf_stop _ hr]

theorem ReadsDirect.suffix {D' : Decl} {S : List Tok} (h : ReadsDirect a D)
    (hne : D = .nm none → ∀ rest, startsGroup (S ++ rest) = false) (hS : 0 < S.length)
    (hp : printD a D' = printD a D ++ S)
    (hstep : ∀ rest f, 2 * S.length ≤ f → parseSuf (f + 1) (denD D) (S ++ rest) = parseSuf f (denD D') rest) :
    ReadsDirect a D' := by
  intro rest f _ hf
  rw [hp, List.length_append] at hf ⊢
  obtain ⟨g, hg, e⟩ := h (S ++ rest) f (fun e => hne e rest) (by omega)
  obtain ⟨g', rfl⟩ := Nat.exists_eq_add_one.mpr (show 0 < g by omega)
  exact ⟨g', by omega, by rw [List.append_assoc, e, hstep rest g' (by omega)]⟩

theorem ReadsDirect.arr (h : ReadsDirect a D) (n : Nat) : ReadsDirect a (.arr D n) :=
  h.suffix (S := [.arr n]) (fun _ _ => rfl) Nat.zero_lt_one rfl (fun _ _ _ => rfl)

theorem ReadsDirect.fn {ps : Params} (h : ReadsDirect a D) (hh : D ≠ .nm none) (hp : ParsesBack a ps) :
    ReadsDirect a (.fn D ps) :=
  h.suffix (S := toks (serPs a ps)) (fun e => absurd e hh) (by cases ps <;> simp [serPs]) rfl
    (fun rest f hf => parseSuf_serPs hp _ rest f hf)

theorem Reads.paren (h : Reads a D) (hh : headOK D = true) : ReadsDirect a (.paren D) := by
  intro rest f _ hf
  obtain ⟨f', rfl⟩ := Nat.exists_eq_add_one.mpr (Nat.zero_lt_of_lt hf)
  have h1 := h (.rpar :: rest) f' (.rpar rest) (by simp [printD] at hf; omega)
  exact ⟨f', by omega, by simp [printD, parseDtor, denD, startsGroup_of_headOK a D _ hh, h1]⟩

theorem Reads.ptr (h : Reads a D) (c : Bool) : Reads a (.ptr c D) := by
  intro rest f hr hf
  obtain ⟨f', rfl⟩ := Nat.exists_eq_add_one.mpr (Nat.zero_lt_of_lt hf)
  simp [printD, parseDtor, denD, h rest f' hr (by simp [printD] at hf; omega)]

end

theorem parseSpec_consts (k : Nat) (b : Base) (x : List Tok) :
    parseSpec (List.replicate k .kconst ++ .ty b :: x) = some (decide (0 < k), b, x) := by
  induction k with
  | zero => simp [parseSpec]
  | succ k ih => simp [List.replicate_succ, parseSpec, ih]

def applied (D : Decl) (t : CType) (rest : List Tok) : Option (Option Name × CType × List Tok) :=
  some (((denD D).apply t).2, ((denD D).apply t).1, rest)

theorem applied_nm (n : Option Name) (t : CType) (rest : List Tok) : applied (.nm n) t rest = some (n, t, rest) := rfl
theorem applied_ptr (c : Bool) (D : Decl) (t : CType) (rest : List Tok) :
    applied (.ptr c D) t rest = applied D (.ptr c t) rest := rfl
theorem applied_fn_paren (D : Decl) (ps : Params) (t : CType) (rest : List Tok) :
    applied (.fn (.paren D) ps) t rest = applied D (.func false false t (denPs ps)) rest := rfl

theorem parse_leaf (a : Bool) (k : Nat) (b : Base) (D : Decl) (rest : List Tok) (f : Nat)
    (hD : Reads a D) (hr : RestOK rest) (hf : 2 * (k + 1 + (printD a D).length) + 2 ≤ f) :
    parseParam f (List.replicate k .kconst ++ .ty b :: (printD a D ++ rest))
      = applied D (.base (decide (0 < k)) b) rest := by
  obtain ⟨f', rfl⟩ := Nat.exists_eq_add_one.mpr (Nat.zero_lt_of_lt hf)
  simp only [parseParam, parseSpec_consts, hD rest f' hr (by omega), applied]

theorem parseParams_rpar {f : Nat} {ts r : List Tok} {n : Option Name} {t : CType}
    (h : parseParam f ts = some (n, t, .rpar :: r)) : parseParams (f + 1) ts = some (.cons n t .nil, r) := by
  simp [parseParams, h]
theorem parseParams_comma {f : Nat} {ts r r' : List Tok} {n : Option Name} {t : CType} {ps : Params}
    (h : parseParam f ts = some (n, t, .comma :: r)) (h' : parseParams f r = some (ps, r')) :
    parseParams (f + 1) ts = some (.cons n t ps, r') := by
  simp [parseParams, h, h']

theorem ite_some_eq_none {α : Type} {c : Prop} [Decidable c] {x : α} {y : Option α} :
    (if c then some x else y) = none ↔ ¬c ∧ y = none := by
  split <;> simp [*]

theorem defect_tref_none {a : Bool} {ctx : Ctx} {c : Bool} {t : CType} :
    defect a ctx (.tref c t) = none ↔ (c = true → baseLike t = true) ∧ defect a ctx t = none := by
  simp [defect, ite_some_eq_none]

theorem defect_array_false_none {ctx : Ctx} {t : CType} {n : Nat} :
    defect false ctx (.array t n) = none ↔ ctx ≠ .ptr ∧ ptrBase t = true ∧ defect false ctx t = none := by
  simp [defect, ite_some_eq_none]

theorem defect_func_none {a : Bool} {ctx : Ctx} {c v : Bool} {r : CType} {ps : Params} :
    defect a ctx (.func c v r ps) = none ↔
      c = false ∧ v = false ∧ ctx ≠ .empty ∧ ctx ≠ .absArr ∧ ptrBase r = true ∧
        defect a .empty r = none ∧ defectPs a ps = none := by
  cases h : defect a .empty r <;> simp [defect, ite_some_eq_none, h, and_assoc]

theorem defectPs_cons_none {a : Bool} {n : Option Name} {t : CType} {r : Params} :
    defectPs a (.cons n t r) = none ↔ defect a (ctxOfName n) t = none ∧ defectPs a r = none := by
  cases h : defect a (ctxOfName n) t <;> simp [defectPs, h]

def par (D : Decl) : Decl := if isPtr D then .paren D else D

theorem printD_par (a : Bool) (D : Decl) :
    printD a (par D) = if isPtr D then .lpar :: (printD a D ++ [.rpar]) else printD a D := by
  unfold par
  split <;> simp [printD]

theorem Reads.direct_par {a : Bool} {D : Decl} (hr : Reads a D) (hd : isPtr D = false → ReadsDirect a D) :
    ReadsDirect a (par D) := by
  unfold par
  split
  next hp => exact hr.paren (isPtr_headOK hp)
  next hp => exact hd (by simpa using hp)

theorem headOK_par (D : Decl) : headOK (par D) = headOK D := by
  unfold par
  split
  next hp => exact (isPtr_headOK hp).symm
  next => rfl

theorem applied_arr_par (D : Decl) (t : CType) (n : Nat) (rest : List Tok) :
    applied (.arr (par D) n) t rest = applied D (.array t n) rest := by
  unfold par
  split <;> rfl

/-- The stack `st`, as `serP` will flush it and as `arrDecl` inspects it, is the declarator `D`;
    `ctx` (the context `defect` computes on the way down) describes `D`; the parser reads `D` back. -/
structure Rel (a : Bool) (ctx : Ctx) (st : List (List Piece)) (D : Decl) : Prop where
  toks_eq : toks st.flatten = printD a D
  star : startsStar st.flatten = isPtr D
  isPtr_eq : isPtr D = (ctx == .ptr)
  head : ctx ≠ .empty → ctx ≠ .absArr → headOK D = true
  reads : Reads a D
  direct : isPtr D = false → ReadsDirect a D

theorem Rel.name (a : Bool) (n : Option Name) : Rel a (ctxOfName n) (nameStack n) (.nm n) := by
  have hd := ReadsDirect.nm a n
  cases n
  · exact ⟨rfl, rfl, rfl, fun h _ => absurd rfl h, hd.reads, fun _ => hd⟩
  · exact ⟨by simp [nameStack, printD], rfl, rfl, fun _ _ => rfl, hd.reads, fun _ => hd⟩

section
variable {a : Bool} {ctx : Ctx} {st : List (List Piece)} {D : Decl}

theorem Rel.ptr (h : Rel a ctx st D) (c : Bool) : Rel a .ptr ([pStar c] :: st) (.ptr c D) :=
  ⟨by simp [printD, h.toks_eq], rfl, rfl, fun _ _ => rfl, h.reads.ptr c, nofun⟩

/-- both forms of the `Array` arm: `X` is the stack after it -/
theorem Rel.arr {X : List (List Piece)} (h : Rel a ctx st D) (n : Nat)
    (ht : toks X.flatten = printD a (par D) ++ [.arr n]) (hs : startsStar X.flatten = false) :
    Rel a ctx.afterArr X (.arr (par D) n) :=
  have hd := (h.reads.direct_par h.direct).arr n
  ⟨ht, hs, by cases ctx <;> rfl, fun _ h2 =>
    (headOK_par D).trans (h.head (by rintro rfl; exact h2 rfl) (by rintro rfl; exact h2 rfl)), hd.reads, fun _ => hd⟩

theorem Rel.fn {ps : Params} (h : Rel a ctx st D) (h1 : ctx ≠ .empty) (h2 : ctx ≠ .absArr) (hp : ParsesBack a ps) :
    Rel a .direct [[pFnOpen] ++ st.flatten ++ [pFnClose] ++ serPs a ps] (.fn (.paren D) ps) :=
  have hd := ((h.reads.paren (h.head h1 h2)).fn nofun hp)
  ⟨by simp [printD, h.toks_eq], rfl, rfl, fun _ _ => rfl, hd.reads, fun _ => hd⟩

end

/-- The round trip for one type with any declarator `D` already on the stack: what is written for `t` on
    `st`, read as a parameter declaration, is `D` applied to `den t`. -/
def RoundTrip (a : Bool) (t : CType) : Prop :=
  ∀ (ctx : Ctx) (st : List (List Piece)) (D : Decl), defect a ctx t = none → Rel a ctx st D →
    ∀ (rest : List Tok) (f : Nat), RestOK rest → 2 * (toks (serP a t st)).length + 2 ≤ f →
      parseParam f (toks (serP a t st) ++ rest) = applied D (den t) rest

theorem roundTrip_baseLike (a : Bool) (t : CType) (hb : baseLike t = true) : RoundTrip a t := by
  intro ctx st D _ hrel rest f hr hf
  obtain ⟨k, b, hden, hser⟩ := leaf_form a t hb
  rw [hser, hrel.toks_eq] at hf ⊢
  rw [hden]
  simpa using parse_leaf a k b D rest f hrel.reads hr (by simp at hf; omega)

/-- One step of the printer: `T` on `st` writes what the smaller `t` writes on `st'`, and `D'` applied to
    `den t` is `D` applied to `den T`. -/
theorem RoundTrip.step {a : Bool} {T t : CType} (ih : RoundTrip a t) {ctx' : Ctx} {st st' : List (List Piece)}
    {D D' : Decl} (hd : defect a ctx' t = none) (hrel : Rel a ctx' st' D')
    (ht : toks (serP a T st) = toks (serP a t st'))
    (ha : ∀ rest, applied D' (den t) rest = applied D (den T) rest) (rest : List Tok) (f : Nat)
    (hr : RestOK rest) (hf : 2 * (toks (serP a T st)).length + 2 ≤ f) :
    parseParam f (toks (serP a T st) ++ rest) = applied D (den T) rest := by
  rw [ht] at hf ⊢
  rw [← ha]
  exact ih ctx' st' D' hd hrel rest f hr hf

theorem RoundTrip.param {a : Bool} {t : CType} (h : RoundTrip a t) (n : Option Name)
    (hd : defect a (ctxOfName n) t = none) (rest : List Tok) (f : Nat) (hr : RestOK rest)
    (hf : 2 * (toks (serP a t (nameStack n))).length + 2 ≤ f) :
    parseParam f (toks (serP a t (nameStack n)) ++ rest) = some (n, den t, rest) :=
  (h _ _ (.nm n) hd (Rel.name a n) rest f hr hf).trans (applied_nm n (den t) rest)

mutual
theorem roundTrip (a : Bool) : ∀ (t : CType), RoundTrip a t
  | .base _ _ => roundTrip_baseLike a _ rfl
  | .other => fun _ _ _ hd => by simp [defect] at hd
  | .ptr c t => fun ctx st D hd hrel =>
    (roundTrip a t).step hd (hrel.ptr c) rfl (applied_ptr c D (den t))
  | .tref c t => fun ctx st D hd hrel => by
    obtain ⟨hb, hd'⟩ := defect_tref_none.mp hd
    cases c
    · exact (roundTrip a t).step hd' hrel rfl (fun _ => rfl)
    · exact roundTrip_baseLike a (.tref true t) (hb rfl) ctx st D hd hrel
  | .array t n => fun ctx st D hd hrel => by
    cases a
    · obtain ⟨hctx, hpb, hdt⟩ := defect_array_false_none.mp hd
      have hnp : isPtr D = false := hrel.isPtr_eq.trans (beq_false_of_ne hctx)
      exact (roundTrip false t).step ((defect_ptrBase_ctx false _ ctx t hpb).trans hdt)
        (hrel.arr n (X := st ++ [[pArr n]]) (by simp [printD_par, hnp, hrel.toks_eq])
          (by simp only [List.flatten_append, startsStar_append, hrel.star, hnp]; split <;> rfl))
        ((toks_append _ _).trans (serP_ptrBase_snoc false [pArr n] t st hpb)) (applied_arr_par D (den t) n)
    · exact (roundTrip true t).step hd
        (hrel.arr n (X := [arrDecl st.flatten n]) (by simp [toks_arrDecl, printD_par, hrel.star, hrel.toks_eq])
          (by simp [startsStar_arrDecl]))
        rfl (applied_arr_par D (den t) n)
  | .func c v r ps => fun ctx st D hd hrel => by
    obtain ⟨rfl, rfl, hne, hna, hpb, hdr, hdps⟩ := defect_func_none.mp hd
    exact (roundTrip a r).step ((defect_ptrBase_ctx a _ .empty r hpb).trans hdr)
      (hrel.fn hne hna (parsesBack a ps hdps))
      (by simpa [serP] using serP_ptrBase_snoc a ([pFnOpen] ++ st.flatten ++ [pFnClose] ++ serPs a ps) r [] hpb)
      (applied_fn_paren D ps (den r))
theorem parsesBack (a : Bool) : ∀ (ps : Params), defectPs a ps = none → ParsesBack a ps
  | .nil, _ => fun rest P f hP => by simp [serPs] at hP
  | .cons n t r, hd => fun rest P f hP hf => by
    obtain ⟨hdt, hdr⟩ := defectPs_cons_none.mp hd
    have ih := parsesBack a r hdr
    obtain rfl : toks (serP a t (nameStack n)) ++ toks (serMore a r) = P := by simpa [serPs] using hP
    obtain ⟨f', rfl⟩ := Nat.exists_eq_add_one.mpr (Nat.zero_lt_of_lt hf)
    have h1 := (roundTrip a t).param n hdt
    cases r with
    | nil =>
      simp [serMore] at hf ⊢
      exact parseParams_rpar (h1 (.rpar :: rest) f' (.rpar rest) (by omega))
    | cons n2 t2 r2 =>
      simp [serMore] at hf ⊢
      have h2 := ih rest _ f' (by simp [serPs]; rfl) (by simp; omega)
      rw [List.append_assoc] at h2
      exact parseParams_comma (h1 (.comma :: _) f' (.comma _) (by omega)) h2
end

end BindgenModel.CDecl

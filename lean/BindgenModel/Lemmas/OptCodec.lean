import BindgenModel.Model.OptCodec
/-! Decoding undoes encoding for the ABI-override, custom-derive, field-attribute and `--generate`
codecs of `Model/OptCodec.lean`, under explicit preconditions, with witnesses where a precondition is
violated.  Of the bracket-aware attribute codec only the split at `=` (`rsplitBracket`) is covered:
`splitBracket`, and with it `encAttr` / `decAttr`, have no lemma. -/
namespace BindgenModel.OptCodec

theorem splitOnce_append (c : Char) (a b : List Char) (h : c ∉ a) :
    splitOnce c (a ++ c :: b) = some (a, b) := by
  induction a with
  | nil => simp [splitOnce]
  | cons x xs ih =>
    have hx : x ≠ c := fun e => h (by simp [e])
    have hxs : c ∉ xs := fun e => h (by simp [e])
    simp [splitOnce, hx, ih hxs]

theorem rsplitOnce_append (c : Char) (a b : List Char) (h : c ∉ b) :
    rsplitOnce c (a ++ c :: b) = some (a, b) := by
  unfold rsplitOnce
  have : (a ++ c :: b).reverse = b.reverse ++ c :: a.reverse := by simp
  rw [this, splitOnce_append c b.reverse a.reverse (by simpa using h)]
  simp

/-- `{item}={abi}`: the item may contain `=`; ABI names have none. -/
theorem abi_roundtrip (item abi : List Char) (h : '=' ∉ abi) :
    decAbi (encAbi item abi) = some (item, abi) := rsplitOnce_append '=' item abi h

/-- the arm of `splitAll` that `Model/OptCodec.lean` marks unreachable is never taken -/
theorem splitAll_ne_nil (c : Char) (s : List Char) : splitAll c s ≠ [] := by
  induction s with
  | nil => simp [splitAll]
  | cons x xs ih =>
    unfold splitAll
    split
    · simp
    · split
      · exact absurd ‹_› ih
      · simp

theorem splitAll_no_sep (c : Char) (s : List Char) (h : c ∉ s) : splitAll c s = [s] := by
  induction s with
  | nil => simp [splitAll]
  | cons x xs ih =>
    have hx : x ≠ c := fun e => h (by simp [e])
    have hxs : c ∉ xs := fun e => h (by simp [e])
    simp [splitAll, hx, ih hxs]

theorem splitAll_append (c : Char) (a rest : List Char) (h : c ∉ a) :
    splitAll c (a ++ c :: rest) = a :: splitAll c rest := by
  induction a with
  | nil => simp [splitAll]
  | cons x xs ih =>
    have hx : x ≠ c := fun e => h (by simp [e])
    have hxs : c ∉ xs := fun e => h (by simp [e])
    simp [splitAll, hx, ih hxs]

theorem splitAll_joinWith (c : Char) (ps : List (List Char)) (hne : ps ≠ [])
    (h : ∀ p ∈ ps, c ∉ p) : splitAll c (joinWith c ps) = ps := by
  induction ps with
  | nil => exact absurd rfl hne
  | cons p rest ih =>
    cases rest with
    | nil => simp [joinWith, splitAll_no_sep c p (h p (by simp))]
    | cons q qs =>
      have hp : c ∉ p := h p (by simp)
      have : joinWith c (p :: q :: qs) = p ++ c :: joinWith c (q :: qs) := rfl
      rw [this, splitAll_append c p _ hp, ih (by simp) (fun x hx => h x (by simp [hx]))]

theorem not_mem_joinWith (c x : Char) (ps : List (List Char)) (hx : x ≠ c) (h : ∀ p ∈ ps, x ∉ p) :
    x ∉ joinWith c ps := by
  induction ps with
  | nil => simp [joinWith]
  | cons p rest ih =>
    cases rest with
    | nil => simpa [joinWith] using h p (by simp)
    | cons q qs =>
      have : joinWith c (p :: q :: qs) = p ++ c :: joinWith c (q :: qs) := rfl
      rw [this]
      simp only [List.mem_append, List.mem_cons, not_or]
      exact ⟨h p (by simp), hx, ih (fun y hy => h y (by simp [hy]))⟩

theorem derive_roundtrip (regex : List Char) (ds : List (List Char)) (hne : ds ≠ [])
    (h : ∀ d ∈ ds, '=' ∉ d ∧ ',' ∉ d) : decDerive (encDerive regex ds) = some (regex, ds) := by
  unfold decDerive encDerive
  rw [rsplitOnce_append '=' regex _ (not_mem_joinWith ',' '=' ds (by decide) (fun d hd => (h d hd).1))]
  simp [splitAll_joinWith ',' ds hne (fun d hd => (h d hd).2)]

/-- `"".split(',')` is `[""]` -/
theorem derive_fails_on_empty_list :
    decDerive (encDerive ['p', 't'] []) = some (['p', 't'], [[]]) := by decide

theorem derive_fails_on_eq_in_derive :
    decDerive (encDerive ['p'] [['A', '=', 'B']]) = some (['p', '=', 'A'], [['B']]) := by decide

theorem splitOnce2_append (p : Char) (f t : List Char) (h : p ∉ f) :
    splitOnce2 p (f ++ p :: p :: t) = some (f, t) := by
  induction f with
  | nil => simp [splitOnce2]
  | cons x xs ih =>
    have hx : x ≠ p := fun e => h (by simp [e])
    have hxs : p ∉ xs := fun e => h (by simp [e])
    cases xs with
    | nil => simp [splitOnce2, hx]
    | cons y ys =>
      have := ih hxs
      simp only [List.cons_append] at this ⊢
      simp [splitOnce2, hx, this]

theorem rsplitOnce2_append (p : Char) (t f : List Char) (h : p ∉ f) :
    rsplitOnce2 p (t ++ p :: p :: f) = some (t, f) := by
  unfold rsplitOnce2
  have : (t ++ p :: p :: f).reverse = f.reverse ++ p :: p :: t.reverse := by simp
  rw [this, splitOnce2_append p f.reverse t.reverse (by simpa using h)]
  simp

theorem field_attr_roundtrip (t f a : List Char) (ht : '=' ∉ t) (hf : '=' ∉ f) (hc : ':' ∉ f) :
    decFieldAttr (encFieldAttr t f a) = some (t, f, a) := by
  unfold decFieldAttr encFieldAttr
  have he : '=' ∉ t ++ ':' :: ':' :: f := by
    simp only [List.mem_append, List.mem_cons, not_or]
    exact ⟨ht, by decide, by decide, hf⟩
  have : t ++ ':' :: ':' :: f ++ '=' :: a = (t ++ ':' :: ':' :: f) ++ '=' :: a := by simp
  rw [this, splitOnce_append '=' _ a he]
  simp [rsplitOnce2_append ':' t f hc]

/-- DESIGN.md §7 row 7 -/
theorem field_attr_fails_on_eq_in_type :
    decFieldAttr (encFieldAttr ['a', '=', 'b'] ['x'] ['#', '[', 'a', ']']) = none := by decide

theorem field_attr_fails_on_colon_in_field :
    decFieldAttr (encFieldAttr ['p', 't'] ['a', ':', ':', 'b'] ['#']) = some (['p', 't', ':', ':', 'a'], ['b'], ['#']) := by
  decide

theorem scanBack_append (lvl : Int) (ra rr : List Char)
    (hno : backNoTopEq lvl ra = true) (hbal : backLevel lvl ra = 0) :
    scanBack lvl (ra ++ '=' :: rr) = some (ra, rr) := by
  induction ra generalizing lvl with
  | nil =>
    simp only [backLevel] at hbal
    simp [scanBack, hbal]
  | cons c cs ih =>
    simp only [backNoTopEq, Bool.and_eq_true, Bool.not_eq_true', decide_eq_false_iff_not] at hno
    simp only [backLevel] at hbal
    obtain ⟨h1, h2⟩ := hno
    simp only [List.cons_append, scanBack]
    rw [if_neg h1, ih _ h2 hbal]

/-- `hno`, `hbal`: reading the attribute text from its end, no `=` occurs outside brackets and brackets
balance (`#[serde(rename = "x")]` is fine, `#[a] = b` is not). -/
theorem attr_rsplit_roundtrip (regex attrs : List Char)
    (hno : backNoTopEq 0 attrs.reverse = true) (hbal : backLevel 0 attrs.reverse = 0) :
    rsplitBracket (regex ++ '=' :: attrs) = some (regex, attrs) := by
  unfold rsplitBracket
  have : (regex ++ '=' :: attrs).reverse = attrs.reverse ++ '=' :: regex.reverse := by simp
  rw [this, scanBack_append 0 _ _ hno hbal]
  simp

/-- in an unbalanced attribute text (`#[a`) no `=` is ever at level 0: bindgen's "Missing `=`" -/
theorem attr_fails_on_unbalanced :
    rsplitBracket (['x', '=', 'y'] ++ '=' :: ['#', '[', 'a']) = none := by decide

example : backNoTopEq 0 ("#[serde(rename = \"x\")]".toList.reverse) = true ∧
    backLevel 0 ("#[serde(rename = \"x\")]".toList.reverse) = 0 := by decide

theorem codegen_roundtrip : ∀ f t v m c d : Bool,
    (f || t || v || m || c || d) = true →
    parseCodegen (showCodegen ⟨f, t, v, m, c, d⟩) = some ⟨f, t, v, m, c, d⟩ := by decide

/-- `--generate ""` is rejected: `"".split(',')` yields `[""]` -/
theorem codegen_fails_on_empty : parseCodegen (showCodegen CodegenBits.empty) = none := by decide

end BindgenModel.OptCodec

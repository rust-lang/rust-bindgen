import BindgenModel.Model.Post
import BindgenModel.Lemmas.InsertSort
/-! # Lemmas about the post-processing model (level operations). -/
set_option linter.unusedSectionVars false
namespace BindgenModel.Post
open BindgenModel.Generated

variable {α : Type} [DecidableEq α]

theorem fieldEq_refl (a : Foreign α) (m : MergeField) : fieldEq a a m = true := by
  cases m <;> exact beq_self_eq_true _

theorem fieldEq_symm (a b : Foreign α) (m : MergeField) : fieldEq a b m = fieldEq b a m := by
  cases m <;> exact BEq.comm

theorem fieldEq_trans {a b c : Foreign α} {m : MergeField} :
    fieldEq a b m = true → fieldEq b c m = true → fieldEq a c m = true := by
  cases m <;> exact fun h1 h2 => beq_iff_eq.mpr ((eq_of_beq h1).trans (eq_of_beq h2))

theorem keyEq_refl (fields) (a : Foreign α) : keyEq fields a a = true :=
  List.all_eq_true.mpr fun m _ => fieldEq_refl a m

theorem keyEq_symm (fields) (a b : Foreign α) : keyEq fields a b = keyEq fields b a :=
  congrArg fields.all (funext (fieldEq_symm a b))

theorem keyEq_field {fields} {a b : Foreign α} {m : MergeField} (h : m ∈ fields)
    (k : keyEq fields a b = true) : fieldEq a b m = true :=
  List.all_eq_true.mp k m h

theorem keyEq_trans {fields} {a b c : Foreign α} (h1 : keyEq fields a b = true) (h2 : keyEq fields b c = true) :
    keyEq fields a c = true :=
  List.all_eq_true.mpr fun _ hm => fieldEq_trans (keyEq_field hm h1) (keyEq_field hm h2)

theorem keyEq_attrs {fields} {a b : Foreign α} (h : MergeField.attrs ∈ fields)
    (k : keyEq fields a b = true) : a.attrs = b.attrs := eq_of_beq (keyEq_field h k)

theorem keyEq_abi {fields} {a b : Foreign α} (h : MergeField.abi ∈ fields)
    (k : keyEq fields a b = true) : a.abi = b.abi := eq_of_beq (keyEq_field h k)

theorem keyEq_unsafety {fields} {a b : Foreign α} (h : MergeField.unsafety ∈ fields)
    (k : keyEq fields a b = true) : a.unsafety = b.unsafety := eq_of_beq (keyEq_field h k)

def SameHead (a b : Foreign α) : Prop := a.attrs = b.attrs ∧ a.abi = b.abi ∧ a.unsafety = b.unsafety

theorem keyEq_of_sameHead_left {fields} {a a' b : Foreign α} (h : SameHead a a') :
    keyEq fields a b = keyEq fields a' b := by
  obtain ⟨h1, h2, h3⟩ := h
  unfold keyEq
  congr 1
  funext m
  cases m <;> simp only [fieldEq, h1, h2, h3]

theorem keyEq_items_left (fields) (a b : Foreign α) (xs : List α) :
    keyEq fields { a with items := xs } b = keyEq fields a b :=
  keyEq_of_sameHead_left ⟨rfl, rfl, rfl⟩

/-- `extern_blocks` after the loop, as a function of the blocks met in order -/
def mergeBlocks (fields : List MergeField) (bs : List (Foreign α)) : List (Foreign α) :=
  bs.foldl (absorb fields) []

def itemsOf (bs : List (Foreign α)) : List α := bs.flatMap Foreign.items

theorem foldl_absorb_cons (fields) (bs : List (Foreign α)) (a : Foreign α) (acc : List (Foreign α)) :
    bs.foldl (absorb fields) (a :: acc) =
      { a with items := a.items ++ itemsOf (bs.filter (keyEq fields a)) } ::
        (bs.filter (fun b => !keyEq fields a b)).foldl (absorb fields) acc := by
  induction bs generalizing a acc with
  | nil => simp [itemsOf]
  | cons f bs ih =>
    rw [List.foldl_cons, absorb]
    cases hk : keyEq fields a f with
    | true =>
      have : keyEq fields { a with items := a.items ++ f.items } = keyEq fields a :=
        funext fun b => keyEq_items_left fields a b _
      simp only [if_true, ih, this, List.filter_cons, hk, Bool.not_true, Bool.false_eq_true, if_false, itemsOf,
        List.flatMap_cons, List.append_assoc]
    | false =>
      simp only [Bool.false_eq_true, if_false, ih, List.filter_cons, hk, Bool.not_false, if_true, List.foldl_cons]

/-- the first block absorbs, in order, the items of every later block with an equal key; the others are
merged among themselves -/
theorem mergeBlocks_cons (fields) (f : Foreign α) (bs : List (Foreign α)) :
    mergeBlocks fields (f :: bs) =
      { f with items := f.items ++ itemsOf (bs.filter (keyEq fields f)) } ::
        mergeBlocks fields (bs.filter (fun b => !keyEq fields f b)) :=
  foldl_absorb_cons fields bs f []

@[simp] theorem mergeBlocks_nil (fields : List MergeField) : mergeBlocks fields ([] : List (Foreign α)) = [] := rfl

/-- the induction that `mergeBlocks_cons` calls for -/
theorem mergeBlocks_induction {motive : List (Foreign α) → Prop} (fields : List MergeField) (nil : motive [])
    (cons : ∀ f bs, motive (bs.filter (fun b => !keyEq fields f b)) → motive (f :: bs)) :
    ∀ bs, motive bs
  | [] => nil
  | f :: bs => cons f bs (mergeBlocks_induction fields nil cons _)
termination_by bs => bs.length
decreasing_by exact Nat.lt_succ_of_le (List.length_filter_le _ bs)

theorem filter_filter_of_imp {β : Type} {p q : β → Bool} {l : List β} (h : ∀ x ∈ l, q x = true → p x = true) :
    (l.filter p).filter q = l.filter q := by
  rw [List.filter_filter]
  refine List.filter_congr fun x hx => ?_
  cases hq : q x with
  | false => rfl
  | true => exact h x hx hq

theorem filter_comm {β : Type} (p q : β → Bool) (l : List β) : (l.filter p).filter q = (l.filter q).filter p := by
  rw [List.filter_filter, List.filter_filter]
  exact List.filter_congr fun x _ => Bool.and_comm ..

theorem mergeBlocks_spec (fields) (bs : List (Foreign α)) :
    ∀ b ∈ mergeBlocks fields bs, ∃ f ∈ bs, SameHead b f ∧
      b.items = itemsOf (bs.filter (keyEq fields f)) := by
  induction bs using mergeBlocks_induction (α := α) fields with
  | nil => simp
  | cons f bs ih =>
    rw [mergeBlocks_cons]
    intro b hb
    rcases List.mem_cons.mp hb with rfl | hb
    · refine ⟨f, List.mem_cons_self, ⟨rfl, rfl, rfl⟩, ?_⟩
      rw [List.filter_cons_of_pos (keyEq_refl fields f)]
      rfl
    · obtain ⟨f', hf', hh, hi⟩ := ih b hb
      obtain ⟨hmem, hne⟩ := List.mem_filter.mp hf'
      have hne : keyEq fields f f' = false := by simpa using hne
      have hne' : ¬ keyEq fields f' f = true := by rw [keyEq_symm, hne]; exact Bool.false_ne_true
      refine ⟨f', List.mem_cons_of_mem _ hmem, hh, ?_⟩
      rw [hi, List.filter_cons_of_neg hne', filter_filter_of_imp]
      -- a block with the key of `f'` has not the key of `f`: the key is transitive
      intro x _ hx
      cases hfx : keyEq fields f x with
      | false => rfl
      | true => rw [keyEq_trans hfx ((keyEq_symm fields x f').trans hx)] at hne; cases hne

theorem mergeBlocks_pairwise (fields) (bs : List (Foreign α)) :
    (mergeBlocks fields bs).Pairwise (fun a b => keyEq fields a b = false) := by
  induction bs using mergeBlocks_induction (α := α) fields with
  | nil => exact .nil
  | cons f bs ih =>
    rw [mergeBlocks_cons]
    refine List.Pairwise.cons (fun b hb => ?_) ih
    obtain ⟨f', hf', hh, -⟩ := mergeBlocks_spec fields _ b hb
    rw [keyEq_items_left, keyEq_symm, keyEq_of_sameHead_left hh, keyEq_symm]
    simpa using (List.mem_filter.mp hf').2

theorem mergeBlocks_of_pairwise (fields) (bs : List (Foreign α))
    (h : bs.Pairwise (fun a b => keyEq fields a b = false)) : mergeBlocks fields bs = bs := by
  induction bs with
  | nil => rfl
  | cons f bs ih =>
    obtain ⟨h1, h2⟩ := List.pairwise_cons.mp h
    have e1 : bs.filter (keyEq fields f) = [] :=
      List.filter_eq_nil_iff.mpr fun b hb => by simp [h1 b hb]
    have e2 : bs.filter (fun b => !keyEq fields f b) = bs :=
      List.filter_eq_self.mpr fun b hb => by simp [h1 b hb]
    rw [mergeBlocks_cons, e1, e2, ih h2, itemsOf, List.flatMap_nil, List.append_nil]

theorem mergeBlocks_idem (fields) (bs : List (Foreign α)) :
    mergeBlocks fields (mergeBlocks fields bs) = mergeBlocks fields bs :=
  mergeBlocks_of_pairwise fields _ (mergeBlocks_pairwise fields bs)

def Foreign.tuplesG (g : Bool → Bool) (f : Foreign α) : List (Tuple α) :=
  f.items.map fun i => ⟨f.attrs, f.abi, g f.unsafety, i⟩

def Agree (fields : List MergeField) (g : Bool → Bool) (bs : List (Foreign α)) : Prop :=
  ∀ a ∈ bs, ∀ b ∈ bs, keyEq fields a b = true → a.attrs = b.attrs ∧ a.abi = b.abi ∧ g a.unsafety = g b.unsafety

theorem Agree.filter {fields g} {bs : List (Foreign α)} (h : Agree fields g bs) (p : Foreign α → Bool) :
    Agree fields g (bs.filter p) :=
  fun a ha b hb k => h a (List.mem_filter.mp ha).1 b (List.mem_filter.mp hb).1 k

theorem tuplesG_absorbed (g) (f : Foreign α) (cs : List (Foreign α))
    (h : ∀ b ∈ cs, f.attrs = b.attrs ∧ f.abi = b.abi ∧ g f.unsafety = g b.unsafety) :
    Foreign.tuplesG g { f with items := f.items ++ itemsOf cs } =
      f.tuplesG g ++ cs.flatMap (Foreign.tuplesG g) := by
  rw [Foreign.tuplesG, List.map_append, itemsOf, List.map_flatMap]
  refine congrArg (_ ++ List.flatten ·) (List.map_congr_left fun b hb => ?_)
  obtain ⟨h1, h2, h3⟩ := h b hb
  rw [Foreign.tuplesG, ← h1, ← h2, ← h3]

theorem mergeBlocks_tuplesG_perm (fields g) (bs : List (Foreign α)) (h : Agree fields g bs) :
    ((mergeBlocks fields bs).flatMap (Foreign.tuplesG g)).Perm (bs.flatMap (Foreign.tuplesG g)) := by
  induction bs using mergeBlocks_induction (α := α) fields with
  | nil => exact .refl _
  | cons f bs ih =>
    have hrest : Agree fields g bs := fun a ha b hb =>
      h a (List.mem_cons_of_mem _ ha) b (List.mem_cons_of_mem _ hb)
    rw [mergeBlocks_cons, List.flatMap_cons, List.flatMap_cons, tuplesG_absorbed g f _ fun b hb =>
      h f List.mem_cons_self b (List.mem_cons_of_mem _ (List.mem_filter.mp hb).1) (List.mem_filter.mp hb).2,
      List.append_assoc]
    -- the blocks with the key of `f` and the others, merged, are up to order all of `bs`
    refine List.Perm.append_left _ (((ih (hrest.filter _)).append_left _).trans ?_)
    rw [← List.flatMap_append]
    exact (List.filter_append_perm (keyEq fields f) bs).flatMap_right _

def others (items : List (Item α)) : List (Item α) := items.filter (fun x => !x.isForeign)

theorem isForeign_eq_isSome (x : Item α) : x.isForeign = x.asForeign.isSome := by
  cases x <;> rfl

theorem foldl_mergeStep (fields) (items : List (Item α)) (st : List (Item α) × List (Foreign α)) :
    items.foldl (mergeStep fields) st = (st.1 ++ others items, (blocksOf items).foldl (absorb fields) st.2) := by
  induction items generalizing st with
  | nil => simp [others, blocksOf]
  | cons x xs ih =>
    rw [List.foldl_cons, ih]
    -- both sides compute on the head: a block is absorbed, any other item is pushed back
    cases x with
    | foreign f => rfl
    | _ => exact congrArg (·, _) (List.append_assoc ..)

/-- `visit_items`: the non-foreign items in their order, then the merged blocks -/
theorem mergeLevel_eq (fields) (items : List (Item α)) :
    mergeLevel fields items = others items ++ (mergeBlocks fields (blocksOf items)).map Item.foreign := by
  simp [mergeLevel, foldl_mergeStep, mergeBlocks]

theorem others_append (a b : List (Item α)) : others (a ++ b) = others a ++ others b :=
  List.filter_append ..

theorem others_others (a : List (Item α)) : others (others a) = others a :=
  filter_filter_of_imp fun _ _ h => h

theorem others_map_foreign (bs : List (Foreign α)) : others (bs.map Item.foreign) = [] := by
  induction bs with
  | nil => rfl
  | cons b bs ih => exact ih

theorem blocksOf_append (a b : List (Item α)) : blocksOf (a ++ b) = blocksOf a ++ blocksOf b :=
  List.filterMap_append

theorem blocksOf_others (a : List (Item α)) : blocksOf (others a) = [] :=
  List.filterMap_eq_nil_iff.mpr fun _ hx => by simpa [isForeign_eq_isSome] using (List.mem_filter.mp hx).2

theorem blocksOf_map_foreign (bs : List (Foreign α)) : blocksOf (bs.map Item.foreign) = bs := by
  rw [blocksOf, List.filterMap_map]
  exact List.filterMap_some

theorem map_foreign_blocksOf (l : List (Item α)) :
    (blocksOf l).map Item.foreign = l.filter Item.isForeign := by
  induction l with
  | nil => rfl
  | cons x xs ih =>
    cases x with
    | foreign f => exact congrArg (Item.foreign f :: ·) ih
    | _ => exact ih

theorem blocksOf_filter_isForeign (l : List (Item α)) : blocksOf (l.filter Item.isForeign) = blocksOf l := by
  rw [← map_foreign_blocksOf, blocksOf_map_foreign]

theorem others_append_blocks_perm (l : List (Item α)) : (others l ++ (blocksOf l).map Item.foreign).Perm l := by
  rw [map_foreign_blocksOf]
  exact List.perm_append_comm.trans (List.filter_append_perm Item.isForeign l)

theorem others_mergeLevel (fields) (items : List (Item α)) : others (mergeLevel fields items) = others items := by
  rw [mergeLevel_eq, others_append, others_others, others_map_foreign, List.append_nil]

theorem blocksOf_mergeLevel (fields) (items : List (Item α)) :
    blocksOf (mergeLevel fields items) = mergeBlocks fields (blocksOf items) := by
  rw [mergeLevel_eq, blocksOf_append, blocksOf_others, blocksOf_map_foreign, List.nil_append]

theorem blocksOf_sortLevel (l : List (Item α)) : blocksOf (sortLevel l) = blocksOf l := by
  have h : (sortLevel l).filter Item.isForeign = l.filter Item.isForeign :=
    stableSort_filter Item.rank Item.isForeign (sortRank .foreignMod) l fun x _ hx => by
      cases x with
      | foreign _ => rfl
      | _ => cases hx
  rw [← blocksOf_filter_isForeign, h, blocksOf_filter_isForeign]

theorem mergeLevel_of_pairwise (fields) (l : List (Item α))
    (h : (blocksOf l).Pairwise (fun a b => keyEq fields a b = false)) :
    mergeLevel fields l = others l ++ l.filter Item.isForeign := by
  rw [mergeLevel_eq, mergeBlocks_of_pairwise fields _ h, map_foreign_blocksOf]

theorem mergeLevel_idem (fields) (items : List (Item α)) :
    mergeLevel fields (mergeLevel fields items) = mergeLevel fields items := by
  rw [mergeLevel_eq fields (mergeLevel fields items), others_mergeLevel, blocksOf_mergeLevel, mergeBlocks_idem,
    ← mergeLevel_eq]

end BindgenModel.Post

import BindgenModel.Model.Reach
/-! Correctness of the work-list DFS of `ItemTraversal` (any finite graph, any predicate):
termination within `|V| + |roots| + 1` steps and "yielded set = reachable set". -/
namespace BindgenModel.Reach

inductive Reach (succ : Nat → List Nat) : Nat → Nat → Prop
  | refl (a : Nat) : Reach succ a a
  | step {a b c : Nat} : Reach succ a b → c ∈ succ b → Reach succ a c

def ReachFrom (succ : Nat → List Nat) (roots : List Nat) (x : Nat) : Prop :=
  ∃ r, r ∈ roots ∧ Reach succ r x

theorem Reach.trans {succ : Nat → List Nat} {a b c : Nat} (h1 : Reach succ a b) (h2 : Reach succ b c) :
    Reach succ a c := by
  induction h2 with
  | refl => exact h1
  | step _ hc ih => exact Reach.step ih hc

theorem Reach.mono {s1 s2 : Nat → List Nat} (h : ∀ v t, t ∈ s1 v → t ∈ s2 v) {a b : Nat}
    (r : Reach s1 a b) : Reach s2 a b := by
  induction r with
  | refl => exact Reach.refl _
  | step _ hc ih => exact Reach.step ih (h _ _ hc)

theorem ReachFrom.mono {s1 s2 : Nat → List Nat} {R1 R2 : List Nat} (hs : ∀ v t, t ∈ s1 v → t ∈ s2 v)
    (hR : ∀ r ∈ R1, r ∈ R2) {x : Nat} : ReachFrom s1 R1 x → ReachFrom s2 R2 x
  | ⟨r, hr, h⟩ => ⟨r, hR r hr, h.mono hs⟩

theorem ReachFrom.step {succ : Nat → List Nat} {R : List Nat} {u t : Nat} :
    ReachFrom succ R u → t ∈ succ u → ReachFrom succ R t
  | ⟨r, hr, h⟩, ht => ⟨r, hr, h.step ht⟩

theorem visit_fst (st : List Nat × List Nat) (t : Nat) : (visit st t).1 = st.1.insert t := by
  rw [visit, apply_ite Prod.fst]
  rfl

/-- for both folds of the traversal: `ItemTraversal::new` over the roots, `trace` over the edges of an item -/
theorem mem_foldl_fst {β : Type} {f : List Nat × β → Nat → List Nat × β}
    (hf : ∀ st t, (f st t).1 = st.1.insert t) (l : List Nat) (st : List Nat × β) (x : Nat) :
    x ∈ (l.foldl f st).1 ↔ x ∈ st.1 ∨ x ∈ l := by
  induction l generalizing st with
  | nil => simp
  | cons t l ih =>
    simp only [List.foldl_cons, ih, hf, List.mem_insert_iff, List.mem_cons, or_assoc, or_comm (a := x = t)]

theorem mem_foldl_visit_fst (l : List Nat) (st : List Nat × List Nat) (x : Nat) :
    x ∈ (l.foldl visit st).1 ↔ x ∈ st.1 ∨ x ∈ l :=
  mem_foldl_fst visit_fst l st x

theorem foldl_visit_cover {out : List Nat} (l : List Nat) {st : List Nat × List Nat}
    (h : ∀ x, x ∈ st.1 ↔ x ∈ st.2 ∨ x ∈ out) :
    ∀ x, x ∈ (l.foldl visit st).1 ↔ x ∈ (l.foldl visit st).2 ∨ x ∈ out := by
  induction l generalizing st with
  | nil => exact h
  | cons t l ih =>
    refine ih fun x => ?_
    unfold visit
    split
    · exact h x
    · simp only [List.mem_cons, h x, or_assoc]

def unseen (V seen : List Nat) : Nat := (V.filter (fun v => !seen.contains v)).length

theorem unseen_le (V seen : List Nat) : unseen V seen ≤ V.length := List.length_filter_le _ _

theorem unseen_cons_lt {V seen : List Nat} {t : Nat} (ht : t ∈ V) (hs : t ∉ seen) :
    unseen V (t :: seen) < unseen V seen := by
  have : V.filter (fun v => !(t :: seen).contains v)
      = (V.filter (fun v => !seen.contains v)).filter (· != t) := by
    simp only [List.filter_filter, List.contains_cons, Bool.not_or, bne]
  unfold unseen
  rw [this, List.length_filter_lt_length_iff_exists]
  exact ⟨t, List.mem_filter.mpr ⟨ht, by simpa using hs⟩, by simp⟩

/-- `unseen + |stack|` is the measure of the loop: a trace does not raise it, the pop before it lowers it. -/
theorem foldl_visit_measure {V l : List Nat} (hl : ∀ t, t ∈ l → t ∈ V) (st : List Nat × List Nat) :
    unseen V (l.foldl visit st).1 + (l.foldl visit st).2.length ≤ unseen V st.1 + st.2.length := by
  induction l generalizing st with
  | nil => exact Nat.le_refl _
  | cons t l ih =>
    refine Nat.le_trans (ih (fun u hu => hl u (List.mem_cons_of_mem _ hu)) _) ?_
    unfold visit
    split
    · exact Nat.le_refl _
    · next h =>
      have := unseen_cons_lt (hl t List.mem_cons_self) (by simpa using h)
      simp only [List.length_cons]
      omega

theorem loop_isSome {succ : Nat → List Nat} {V : List Nat} (hV : ∀ v t, t ∈ succ v → t ∈ V)
    {fuel : Nat} {seen stack : List Nat} (out : List Nat) (h : unseen V seen + stack.length < fuel) :
    (loop succ fuel seen stack out).isSome = true := by
  fun_induction loop succ fuel seen stack out with
  | case1 => omega
  | case2 => rfl
  | case3 f seen id rest out st ih =>
    have : unseen V st.1 + st.2.length ≤ unseen V seen + rest.length :=
      foldl_visit_measure (hV id) (seen, rest)
    exact ih (Nat.lt_of_le_of_lt this (Nat.lt_of_succ_lt_succ h))

theorem mem_initState_fst (R : List Nat) (x : Nat) : x ∈ (initState R).1 ↔ x ∈ R :=
  (mem_foldl_fst (β := List Nat) (fun _ _ => rfl) R ([], []) x).trans (by simp)

/-- every root is pushed, seen before or not: the second component is a fold of its own -/
theorem initState_snd (R : List Nat) : (initState R).2 = R.reverse := by
  rw [initState, ← List.foldl_hom Prod.snd (g₂ := fun s r => r :: s) fun _ _ => rfl,
    List.foldl_flip_cons_eq_append', List.append_nil]

structure Inv (succ : Nat → List Nat) (R seen stack out : List Nat) : Prop where
  sound : ∀ x, x ∈ seen → ReachFrom succ R x
  cover : ∀ x, x ∈ seen ↔ x ∈ stack ∨ x ∈ out
  closed : ∀ u, u ∈ out → ∀ t, t ∈ succ u → t ∈ seen
  roots : ∀ r, r ∈ R → r ∈ seen

theorem Inv.init (succ : Nat → List Nat) (R : List Nat) :
    Inv succ R (initState R).1 (initState R).2 [] where
  sound x hx := ⟨x, (mem_initState_fst R x).mp hx, Reach.refl x⟩
  cover x := by simp [mem_initState_fst, initState_snd]
  closed u hu := nomatch hu
  roots r := (mem_initState_fst R r).mpr

theorem Inv.step {succ : Nat → List Nat} {R seen rest out : List Nat} {id : Nat}
    (inv : Inv succ R seen (id :: rest) out) :
    Inv succ R ((succ id).foldl visit (seen, rest)).1 ((succ id).foldl visit (seen, rest)).2 (id :: out) where
  sound x hx := by
    have hid : id ∈ seen := (inv.cover id).mpr (Or.inl List.mem_cons_self)
    rcases (mem_foldl_visit_fst _ _ x).mp hx with h | h
    · exact inv.sound x h
    · exact (inv.sound id hid).step h
  cover :=
    foldl_visit_cover (succ id) fun x => by simp only [inv.cover x, List.mem_cons, or_assoc, or_left_comm]
  closed u hu t ht := by
    rw [mem_foldl_visit_fst]
    rcases List.mem_cons.mp hu with rfl | h
    · exact Or.inr ht
    · exact Or.inl (inv.closed u h t ht)
  roots r hr := (mem_foldl_visit_fst _ _ r).mpr (Or.inl (inv.roots r hr))

/-- When the stack is empty, what has been yielded is `seen`, which contains the roots and is closed under `succ`. -/
theorem Inv.mem_out {succ : Nat → List Nat} {R seen out : List Nat} (inv : Inv succ R seen [] out) (x : Nat) :
    x ∈ out ↔ ReachFrom succ R x := by
  have hcov : ∀ y, y ∈ seen ↔ y ∈ out := fun y => by simpa using inv.cover y
  rw [← hcov]
  constructor
  · exact inv.sound x
  · rintro ⟨r, hr, hreach⟩
    induction hreach with
    | refl => exact inv.roots r hr
    | step _ hc ih => exact inv.closed _ ((hcov _).mp ih) _ hc

theorem loop_spec {succ : Nat → List Nat} {R : List Nat} {fuel : Nat} {seen stack out res : List Nat}
    (inv : Inv succ R seen stack out) (h : loop succ fuel seen stack out = some res) (x : Nat) :
    x ∈ res ↔ ReachFrom succ R x := by
  fun_induction loop succ fuel seen stack out with
  | case1 => cases h
  | case2 =>
    cases h
    rw [List.mem_reverse, inv.mem_out]
  | case3 _ _ _ _ _ _ ih => exact ih inv.step h

theorem itemTraversal_spec {succ : Nat → List Nat} {fuel : Nat} {R res : List Nat}
    (h : itemTraversal succ fuel R = some res) (x : Nat) : x ∈ res ↔ ReachFrom succ R x :=
  loop_spec (Inv.init succ R) h x

theorem itemTraversal_isSome (succ : Nat → List Nat) (V R : List Nat) (hV : ∀ v t, t ∈ succ v → t ∈ V) :
    (itemTraversal succ (V.length + R.length + 1) R).isSome = true := by
  apply loop_isSome hV
  have := unseen_le V (initState R).1
  rw [initState_snd, List.length_reverse]
  omega

theorem allowlistedTraversal_spec {succ : Nat → List Nat} {bl : Nat → Bool} {fuel : Nat} {R ys : List Nat}
    (h : allowlistedTraversal succ bl fuel R = some ys) (x : Nat) :
    x ∈ ys ↔ ReachFrom succ R x ∧ bl x = false := by
  obtain ⟨res, hres, rfl⟩ := Option.map_eq_some_iff.mp h
  simp only [List.mem_filter, Bool.not_eq_true', itemTraversal_spec hres x]

theorem allowlistedTraversal_mono {s s' : Nat → List Nat} {bl bl' : Nat → Bool} {fuel fuel' : Nat}
    {R R' ys ys' : List Nat} (hs : ∀ v t, t ∈ s v → t ∈ s' v) (hR : ∀ r ∈ R, r ∈ R')
    (h : allowlistedTraversal s bl fuel R = some ys) (h' : allowlistedTraversal s' bl' fuel' R' = some ys')
    {x : Nat} (hx : x ∈ ys) (hb : bl x = false → bl' x = false) : x ∈ ys' :=
  have ⟨hr, hbx⟩ := (allowlistedTraversal_spec h x).mp hx
  (allowlistedTraversal_spec h' x).mpr ⟨hr.mono hs hR, hb hbx⟩

end BindgenModel.Reach

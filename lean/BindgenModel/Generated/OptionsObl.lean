import BindgenModel.Model.OptsSpec
/-! @generated by /verif/translator from /repo's working tree — do not edit. -/
namespace BindgenModel.Generated
open BindgenModel.Opts

theorem flags_distinct : flagsDistinct = true := by decide +kernel
/-- the fields with `as_args: ignore`: positional / trailing ones are carried by the header and `--`, the rest cannot be expressed -/
theorem ignored_fields : (optSpecs.filter (·.kind == .ignored)).map (·.field) = [.rustfmt_path, .input_headers, .clang_args, .fallback_clang_args, .input_header_contents, .rust_features] := by decide +kernel
theorem ignored_fields_classified : ∀ s ∈ optSpecs, s.kind == .ignored → s.field ∈ [OField.input_headers, .clang_args] ∨ s.field ∈ notExpressibleFields := by decide +kernel

theorem wf_all : ∀ s ∈ optSpecs, wfRow s = true ∨ s.field ∈ knownDefectFields := by decide +kernel
theorem sole_all : ∀ s ∈ optSpecs, (otherWriters s).isEmpty = true ∨ s.field ∈ multiWriterFields ∨ s.field ∈ knownDefectFields := by decide +kernel
theorem specs_cover_fields : ∀ f : OField, (specOf f).isSome = true := by intro f; cases f <;> decide +kernel

/-! Per field, the row of `wf_all` / `sole_all`: evaluating `otherWriters` row by row repeats the lookup of every
arm's method.  Membership in the table is by `decide +kernel`: plain `decide` evaluates it in the elaborator. -/

theorem wf_use_specific_virtual_function_receiver : wfRow spec_use_specific_virtual_function_receiver = true ∨ OField.use_specific_virtual_function_receiver ∈ knownDefectFields := wf_all _ (by decide +kernel)
theorem wf_use_distinct_char16_t : wfRow spec_use_distinct_char16_t = true ∨ OField.use_distinct_char16_t ∈ knownDefectFields := wf_all _ (by decide +kernel)
theorem wf_represent_cxx_operators : wfRow spec_represent_cxx_operators = true ∨ OField.represent_cxx_operators ∈ knownDefectFields := wf_all _ (by decide +kernel)
theorem wf_blocklisted_types : wfRow spec_blocklisted_types = true ∨ OField.blocklisted_types ∈ knownDefectFields := wf_all _ (by decide +kernel)
theorem wf_blocklisted_functions : wfRow spec_blocklisted_functions = true ∨ OField.blocklisted_functions ∈ knownDefectFields := wf_all _ (by decide +kernel)
theorem wf_blocklisted_items : wfRow spec_blocklisted_items = true ∨ OField.blocklisted_items ∈ knownDefectFields := wf_all _ (by decide +kernel)
theorem wf_blocklisted_files : wfRow spec_blocklisted_files = true ∨ OField.blocklisted_files ∈ knownDefectFields := wf_all _ (by decide +kernel)
theorem wf_blocklisted_vars : wfRow spec_blocklisted_vars = true ∨ OField.blocklisted_vars ∈ knownDefectFields := wf_all _ (by decide +kernel)
theorem wf_opaque_types : wfRow spec_opaque_types = true ∨ OField.opaque_types ∈ knownDefectFields := wf_all _ (by decide +kernel)
theorem wf_rustfmt_path : wfRow spec_rustfmt_path = true ∨ OField.rustfmt_path ∈ knownDefectFields := wf_all _ (by decide +kernel)
theorem wf_depfile : wfRow spec_depfile = true ∨ OField.depfile ∈ knownDefectFields := wf_all _ (by decide +kernel)
theorem wf_allowlisted_types : wfRow spec_allowlisted_types = true ∨ OField.allowlisted_types ∈ knownDefectFields := wf_all _ (by decide +kernel)
theorem wf_allowlisted_functions : wfRow spec_allowlisted_functions = true ∨ OField.allowlisted_functions ∈ knownDefectFields := wf_all _ (by decide +kernel)
theorem wf_allowlisted_vars : wfRow spec_allowlisted_vars = true ∨ OField.allowlisted_vars ∈ knownDefectFields := wf_all _ (by decide +kernel)
theorem wf_allowlisted_files : wfRow spec_allowlisted_files = true ∨ OField.allowlisted_files ∈ knownDefectFields := wf_all _ (by decide +kernel)
theorem wf_allowlisted_items : wfRow spec_allowlisted_items = true ∨ OField.allowlisted_items ∈ knownDefectFields := wf_all _ (by decide +kernel)
theorem wf_default_enum_style : wfRow spec_default_enum_style = true ∨ OField.default_enum_style ∈ knownDefectFields := wf_all _ (by decide +kernel)
theorem wf_bitfield_enums : wfRow spec_bitfield_enums = true ∨ OField.bitfield_enums ∈ knownDefectFields := wf_all _ (by decide +kernel)
theorem wf_newtype_enums : wfRow spec_newtype_enums = true ∨ OField.newtype_enums ∈ knownDefectFields := wf_all _ (by decide +kernel)
theorem wf_newtype_global_enums : wfRow spec_newtype_global_enums = true ∨ OField.newtype_global_enums ∈ knownDefectFields := wf_all _ (by decide +kernel)
theorem wf_rustified_enums : wfRow spec_rustified_enums = true ∨ OField.rustified_enums ∈ knownDefectFields := wf_all _ (by decide +kernel)
theorem wf_rustified_non_exhaustive_enums : wfRow spec_rustified_non_exhaustive_enums = true ∨ OField.rustified_non_exhaustive_enums ∈ knownDefectFields := wf_all _ (by decide +kernel)
theorem wf_constified_enum_modules : wfRow spec_constified_enum_modules = true ∨ OField.constified_enum_modules ∈ knownDefectFields := wf_all _ (by decide +kernel)
theorem wf_constified_enums : wfRow spec_constified_enums = true ∨ OField.constified_enums ∈ knownDefectFields := wf_all _ (by decide +kernel)
theorem wf_default_macro_constant_type : wfRow spec_default_macro_constant_type = true ∨ OField.default_macro_constant_type ∈ knownDefectFields := wf_all _ (by decide +kernel)
theorem wf_default_alias_style : wfRow spec_default_alias_style = true ∨ OField.default_alias_style ∈ knownDefectFields := wf_all _ (by decide +kernel)
theorem wf_type_alias : wfRow spec_type_alias = true ∨ OField.type_alias ∈ knownDefectFields := wf_all _ (by decide +kernel)
theorem wf_new_type_alias : wfRow spec_new_type_alias = true ∨ OField.new_type_alias ∈ knownDefectFields := wf_all _ (by decide +kernel)
theorem wf_new_type_alias_deref : wfRow spec_new_type_alias_deref = true ∨ OField.new_type_alias_deref ∈ knownDefectFields := wf_all _ (by decide +kernel)
theorem wf_default_non_copy_union_style : wfRow spec_default_non_copy_union_style = true ∨ OField.default_non_copy_union_style ∈ knownDefectFields := wf_all _ (by decide +kernel)
theorem wf_bindgen_wrapper_union : wfRow spec_bindgen_wrapper_union = true ∨ OField.bindgen_wrapper_union ∈ knownDefectFields := wf_all _ (by decide +kernel)
theorem wf_manually_drop_union : wfRow spec_manually_drop_union = true ∨ OField.manually_drop_union ∈ knownDefectFields := wf_all _ (by decide +kernel)
theorem wf_builtins : wfRow spec_builtins = true ∨ OField.builtins ∈ knownDefectFields := wf_all _ (by decide +kernel)
theorem wf_emit_ast : wfRow spec_emit_ast = true ∨ OField.emit_ast ∈ knownDefectFields := wf_all _ (by decide +kernel)
theorem wf_emit_ir : wfRow spec_emit_ir = true ∨ OField.emit_ir ∈ knownDefectFields := wf_all _ (by decide +kernel)
theorem wf_emit_ir_graphviz : wfRow spec_emit_ir_graphviz = true ∨ OField.emit_ir_graphviz ∈ knownDefectFields := wf_all _ (by decide +kernel)
theorem wf_enable_cxx_namespaces : wfRow spec_enable_cxx_namespaces = true ∨ OField.enable_cxx_namespaces ∈ knownDefectFields := wf_all _ (by decide +kernel)
theorem wf_enable_function_attribute_detection : wfRow spec_enable_function_attribute_detection = true ∨ OField.enable_function_attribute_detection ∈ knownDefectFields := wf_all _ (by decide +kernel)
theorem wf_disable_name_namespacing : wfRow spec_disable_name_namespacing = true ∨ OField.disable_name_namespacing ∈ knownDefectFields := wf_all _ (by decide +kernel)
theorem wf_disable_nested_struct_naming : wfRow spec_disable_nested_struct_naming = true ∨ OField.disable_nested_struct_naming ∈ knownDefectFields := wf_all _ (by decide +kernel)
theorem wf_disable_header_comment : wfRow spec_disable_header_comment = true ∨ OField.disable_header_comment ∈ knownDefectFields := wf_all _ (by decide +kernel)
theorem wf_layout_tests : wfRow spec_layout_tests = true ∨ OField.layout_tests ∈ knownDefectFields := wf_all _ (by decide +kernel)
theorem wf_impl_debug : wfRow spec_impl_debug = true ∨ OField.impl_debug ∈ knownDefectFields := wf_all _ (by decide +kernel)
theorem wf_impl_partialeq : wfRow spec_impl_partialeq = true ∨ OField.impl_partialeq ∈ knownDefectFields := wf_all _ (by decide +kernel)
theorem wf_derive_copy : wfRow spec_derive_copy = true ∨ OField.derive_copy ∈ knownDefectFields := wf_all _ (by decide +kernel)
theorem wf_derive_debug : wfRow spec_derive_debug = true ∨ OField.derive_debug ∈ knownDefectFields := wf_all _ (by decide +kernel)
theorem wf_derive_default : wfRow spec_derive_default = true ∨ OField.derive_default ∈ knownDefectFields := wf_all _ (by decide +kernel)
theorem wf_derive_hash : wfRow spec_derive_hash = true ∨ OField.derive_hash ∈ knownDefectFields := wf_all _ (by decide +kernel)
theorem wf_derive_partialord : wfRow spec_derive_partialord = true ∨ OField.derive_partialord ∈ knownDefectFields := wf_all _ (by decide +kernel)
theorem wf_derive_ord : wfRow spec_derive_ord = true ∨ OField.derive_ord ∈ knownDefectFields := wf_all _ (by decide +kernel)
theorem wf_derive_partialeq : wfRow spec_derive_partialeq = true ∨ OField.derive_partialeq ∈ knownDefectFields := wf_all _ (by decide +kernel)
theorem wf_derive_eq : wfRow spec_derive_eq = true ∨ OField.derive_eq ∈ knownDefectFields := wf_all _ (by decide +kernel)
theorem wf_use_core : wfRow spec_use_core = true ∨ OField.use_core ∈ knownDefectFields := wf_all _ (by decide +kernel)
theorem wf_ctypes_prefix : wfRow spec_ctypes_prefix = true ∨ OField.ctypes_prefix ∈ knownDefectFields := wf_all _ (by decide +kernel)
theorem wf_anon_fields_prefix : wfRow spec_anon_fields_prefix = true ∨ OField.anon_fields_prefix ∈ knownDefectFields := wf_all _ (by decide +kernel)
theorem wf_time_phases : wfRow spec_time_phases = true ∨ OField.time_phases ∈ knownDefectFields := wf_all _ (by decide +kernel)
theorem wf_convert_floats : wfRow spec_convert_floats = true ∨ OField.convert_floats ∈ knownDefectFields := wf_all _ (by decide +kernel)
theorem wf_raw_lines : wfRow spec_raw_lines = true ∨ OField.raw_lines ∈ knownDefectFields := wf_all _ (by decide +kernel)
theorem wf_module_lines : wfRow spec_module_lines = true ∨ OField.module_lines ∈ knownDefectFields := wf_all _ (by decide +kernel)
theorem wf_input_headers : wfRow spec_input_headers = true ∨ OField.input_headers ∈ knownDefectFields := wf_all _ (by decide +kernel)
theorem wf_clang_args : wfRow spec_clang_args = true ∨ OField.clang_args ∈ knownDefectFields := wf_all _ (by decide +kernel)
theorem wf_fallback_clang_args : wfRow spec_fallback_clang_args = true ∨ OField.fallback_clang_args ∈ knownDefectFields := wf_all _ (by decide +kernel)
theorem wf_input_header_contents : wfRow spec_input_header_contents = true ∨ OField.input_header_contents ∈ knownDefectFields := wf_all _ (by decide +kernel)
theorem wf_parse_callbacks : wfRow spec_parse_callbacks = true ∨ OField.parse_callbacks ∈ knownDefectFields := wf_all _ (by decide +kernel)
theorem wf_codegen_config : wfRow spec_codegen_config = true ∨ OField.codegen_config ∈ knownDefectFields := wf_all _ (by decide +kernel)
theorem wf_conservative_inline_namespaces : wfRow spec_conservative_inline_namespaces = true ∨ OField.conservative_inline_namespaces ∈ knownDefectFields := wf_all _ (by decide +kernel)
theorem wf_generate_comments : wfRow spec_generate_comments = true ∨ OField.generate_comments ∈ knownDefectFields := wf_all _ (by decide +kernel)
theorem wf_generate_cxx_nonnull_references : wfRow spec_generate_cxx_nonnull_references = true ∨ OField.generate_cxx_nonnull_references ∈ knownDefectFields := wf_all _ (by decide +kernel)
theorem wf_generate_inline_functions : wfRow spec_generate_inline_functions = true ∨ OField.generate_inline_functions ∈ knownDefectFields := wf_all _ (by decide +kernel)
theorem wf_allowlist_recursively : wfRow spec_allowlist_recursively = true ∨ OField.allowlist_recursively ∈ knownDefectFields := wf_all _ (by decide +kernel)
theorem wf_objc_extern_crate : wfRow spec_objc_extern_crate = true ∨ OField.objc_extern_crate ∈ knownDefectFields := wf_all _ (by decide +kernel)
theorem wf_generate_block : wfRow spec_generate_block = true ∨ OField.generate_block ∈ knownDefectFields := wf_all _ (by decide +kernel)
theorem wf_generate_cstr : wfRow spec_generate_cstr = true ∨ OField.generate_cstr ∈ knownDefectFields := wf_all _ (by decide +kernel)
theorem wf_block_extern_crate : wfRow spec_block_extern_crate = true ∨ OField.block_extern_crate ∈ knownDefectFields := wf_all _ (by decide +kernel)
theorem wf_enable_mangling : wfRow spec_enable_mangling = true ∨ OField.enable_mangling ∈ knownDefectFields := wf_all _ (by decide +kernel)
theorem wf_detect_include_paths : wfRow spec_detect_include_paths = true ∨ OField.detect_include_paths ∈ knownDefectFields := wf_all _ (by decide +kernel)
theorem wf_fit_macro_constants : wfRow spec_fit_macro_constants = true ∨ OField.fit_macro_constants ∈ knownDefectFields := wf_all _ (by decide +kernel)
theorem wf_prepend_enum_name : wfRow spec_prepend_enum_name = true ∨ OField.prepend_enum_name ∈ knownDefectFields := wf_all _ (by decide +kernel)
theorem wf_rust_target : wfRow spec_rust_target = true ∨ OField.rust_target ∈ knownDefectFields := wf_all _ (by decide +kernel)
theorem wf_rust_edition : wfRow spec_rust_edition = true ∨ OField.rust_edition ∈ knownDefectFields := wf_all _ (by decide +kernel)
theorem wf_rust_features : wfRow spec_rust_features = true ∨ OField.rust_features ∈ knownDefectFields := wf_all _ (by decide +kernel)
theorem wf_untagged_union : wfRow spec_untagged_union = true ∨ OField.untagged_union ∈ knownDefectFields := wf_all _ (by decide +kernel)
theorem wf_record_matches : wfRow spec_record_matches = true ∨ OField.record_matches ∈ knownDefectFields := wf_all _ (by decide +kernel)
theorem wf_size_t_is_usize : wfRow spec_size_t_is_usize = true ∨ OField.size_t_is_usize ∈ knownDefectFields := wf_all _ (by decide +kernel)
theorem wf_formatter : wfRow spec_formatter = true ∨ OField.formatter ∈ knownDefectFields := wf_all _ (by decide +kernel)
theorem wf_rustfmt_configuration_file : wfRow spec_rustfmt_configuration_file = true ∨ OField.rustfmt_configuration_file ∈ knownDefectFields := wf_all _ (by decide +kernel)
theorem wf_no_partialeq_types : wfRow spec_no_partialeq_types = true ∨ OField.no_partialeq_types ∈ knownDefectFields := wf_all _ (by decide +kernel)
theorem wf_no_copy_types : wfRow spec_no_copy_types = true ∨ OField.no_copy_types ∈ knownDefectFields := wf_all _ (by decide +kernel)
theorem wf_no_debug_types : wfRow spec_no_debug_types = true ∨ OField.no_debug_types ∈ knownDefectFields := wf_all _ (by decide +kernel)
theorem wf_no_default_types : wfRow spec_no_default_types = true ∨ OField.no_default_types ∈ knownDefectFields := wf_all _ (by decide +kernel)
theorem wf_no_hash_types : wfRow spec_no_hash_types = true ∨ OField.no_hash_types ∈ knownDefectFields := wf_all _ (by decide +kernel)
theorem wf_must_use_types : wfRow spec_must_use_types = true ∨ OField.must_use_types ∈ knownDefectFields := wf_all _ (by decide +kernel)
theorem wf_array_pointers_in_arguments : wfRow spec_array_pointers_in_arguments = true ∨ OField.array_pointers_in_arguments ∈ knownDefectFields := wf_all _ (by decide +kernel)
theorem wf_extern_fn_block_attrs : wfRow spec_extern_fn_block_attrs = true ∨ OField.extern_fn_block_attrs ∈ knownDefectFields := wf_all _ (by decide +kernel)
theorem wf_wasm_import_module_name : wfRow spec_wasm_import_module_name = true ∨ OField.wasm_import_module_name ∈ knownDefectFields := wf_all _ (by decide +kernel)
theorem wf_dynamic_library_name : wfRow spec_dynamic_library_name = true ∨ OField.dynamic_library_name ∈ knownDefectFields := wf_all _ (by decide +kernel)
theorem wf_dynamic_link_require_all : wfRow spec_dynamic_link_require_all = true ∨ OField.dynamic_link_require_all ∈ knownDefectFields := wf_all _ (by decide +kernel)
theorem wf_respect_cxx_access_specs : wfRow spec_respect_cxx_access_specs = true ∨ OField.respect_cxx_access_specs ∈ knownDefectFields := wf_all _ (by decide +kernel)
theorem wf_translate_enum_integer_types : wfRow spec_translate_enum_integer_types = true ∨ OField.translate_enum_integer_types ∈ knownDefectFields := wf_all _ (by decide +kernel)
theorem wf_c_naming : wfRow spec_c_naming = true ∨ OField.c_naming ∈ knownDefectFields := wf_all _ (by decide +kernel)
theorem wf_force_explicit_padding : wfRow spec_force_explicit_padding = true ∨ OField.force_explicit_padding ∈ knownDefectFields := wf_all _ (by decide +kernel)
theorem wf_vtable_generation : wfRow spec_vtable_generation = true ∨ OField.vtable_generation ∈ knownDefectFields := wf_all _ (by decide +kernel)
theorem wf_sort_semantically : wfRow spec_sort_semantically = true ∨ OField.sort_semantically ∈ knownDefectFields := wf_all _ (by decide +kernel)
theorem wf_merge_extern_blocks : wfRow spec_merge_extern_blocks = true ∨ OField.merge_extern_blocks ∈ knownDefectFields := wf_all _ (by decide +kernel)
theorem wf_wrap_unsafe_ops : wfRow spec_wrap_unsafe_ops = true ∨ OField.wrap_unsafe_ops ∈ knownDefectFields := wf_all _ (by decide +kernel)
theorem wf_flexarray_dst : wfRow spec_flexarray_dst = true ∨ OField.flexarray_dst ∈ knownDefectFields := wf_all _ (by decide +kernel)
theorem wf_abi_overrides : wfRow spec_abi_overrides = true ∨ OField.abi_overrides ∈ knownDefectFields := wf_all _ (by decide +kernel)
theorem wf_wrap_static_fns : wfRow spec_wrap_static_fns = true ∨ OField.wrap_static_fns ∈ knownDefectFields := wf_all _ (by decide +kernel)
theorem wf_wrap_static_fns_suffix : wfRow spec_wrap_static_fns_suffix = true ∨ OField.wrap_static_fns_suffix ∈ knownDefectFields := wf_all _ (by decide +kernel)
theorem wf_wrap_static_fns_path : wfRow spec_wrap_static_fns_path = true ∨ OField.wrap_static_fns_path ∈ knownDefectFields := wf_all _ (by decide +kernel)
theorem wf_default_visibility : wfRow spec_default_visibility = true ∨ OField.default_visibility ∈ knownDefectFields := wf_all _ (by decide +kernel)
theorem wf_emit_diagnostics : wfRow spec_emit_diagnostics = true ∨ OField.emit_diagnostics ∈ knownDefectFields := wf_all _ (by decide +kernel)
theorem wf_clang_macro_fallback : wfRow spec_clang_macro_fallback = true ∨ OField.clang_macro_fallback ∈ knownDefectFields := wf_all _ (by decide +kernel)
theorem wf_clang_macro_fallback_build_dir : wfRow spec_clang_macro_fallback_build_dir = true ∨ OField.clang_macro_fallback_build_dir ∈ knownDefectFields := wf_all _ (by decide +kernel)
theorem wf_generate_deleted_functions : wfRow spec_generate_deleted_functions = true ∨ OField.generate_deleted_functions ∈ knownDefectFields := wf_all _ (by decide +kernel)
theorem wf_generate_pure_virtual_functions : wfRow spec_generate_pure_virtual_functions = true ∨ OField.generate_pure_virtual_functions ∈ knownDefectFields := wf_all _ (by decide +kernel)
theorem wf_generate_private_functions : wfRow spec_generate_private_functions = true ∨ OField.generate_private_functions ∈ knownDefectFields := wf_all _ (by decide +kernel)
theorem wf_field_attr_patterns : wfRow spec_field_attr_patterns = true ∨ OField.field_attr_patterns ∈ knownDefectFields := wf_all _ (by decide +kernel)

theorem sole_use_specific_virtual_function_receiver : (otherWriters spec_use_specific_virtual_function_receiver).isEmpty = true ∨ OField.use_specific_virtual_function_receiver ∈ multiWriterFields ∨ OField.use_specific_virtual_function_receiver ∈ knownDefectFields := sole_all _ (by decide +kernel)
theorem sole_use_distinct_char16_t : (otherWriters spec_use_distinct_char16_t).isEmpty = true ∨ OField.use_distinct_char16_t ∈ multiWriterFields ∨ OField.use_distinct_char16_t ∈ knownDefectFields := sole_all _ (by decide +kernel)
theorem sole_represent_cxx_operators : (otherWriters spec_represent_cxx_operators).isEmpty = true ∨ OField.represent_cxx_operators ∈ multiWriterFields ∨ OField.represent_cxx_operators ∈ knownDefectFields := sole_all _ (by decide +kernel)
theorem sole_blocklisted_types : (otherWriters spec_blocklisted_types).isEmpty = true ∨ OField.blocklisted_types ∈ multiWriterFields ∨ OField.blocklisted_types ∈ knownDefectFields := sole_all _ (by decide +kernel)
theorem sole_blocklisted_functions : (otherWriters spec_blocklisted_functions).isEmpty = true ∨ OField.blocklisted_functions ∈ multiWriterFields ∨ OField.blocklisted_functions ∈ knownDefectFields := sole_all _ (by decide +kernel)
theorem sole_blocklisted_items : (otherWriters spec_blocklisted_items).isEmpty = true ∨ OField.blocklisted_items ∈ multiWriterFields ∨ OField.blocklisted_items ∈ knownDefectFields := sole_all _ (by decide +kernel)
theorem sole_blocklisted_files : (otherWriters spec_blocklisted_files).isEmpty = true ∨ OField.blocklisted_files ∈ multiWriterFields ∨ OField.blocklisted_files ∈ knownDefectFields := sole_all _ (by decide +kernel)
theorem sole_blocklisted_vars : (otherWriters spec_blocklisted_vars).isEmpty = true ∨ OField.blocklisted_vars ∈ multiWriterFields ∨ OField.blocklisted_vars ∈ knownDefectFields := sole_all _ (by decide +kernel)
theorem sole_opaque_types : (otherWriters spec_opaque_types).isEmpty = true ∨ OField.opaque_types ∈ multiWriterFields ∨ OField.opaque_types ∈ knownDefectFields := sole_all _ (by decide +kernel)
theorem sole_rustfmt_path : (otherWriters spec_rustfmt_path).isEmpty = true ∨ OField.rustfmt_path ∈ multiWriterFields ∨ OField.rustfmt_path ∈ knownDefectFields := sole_all _ (by decide +kernel)
theorem sole_depfile : (otherWriters spec_depfile).isEmpty = true ∨ OField.depfile ∈ multiWriterFields ∨ OField.depfile ∈ knownDefectFields := sole_all _ (by decide +kernel)
theorem sole_allowlisted_types : (otherWriters spec_allowlisted_types).isEmpty = true ∨ OField.allowlisted_types ∈ multiWriterFields ∨ OField.allowlisted_types ∈ knownDefectFields := sole_all _ (by decide +kernel)
theorem sole_allowlisted_functions : (otherWriters spec_allowlisted_functions).isEmpty = true ∨ OField.allowlisted_functions ∈ multiWriterFields ∨ OField.allowlisted_functions ∈ knownDefectFields := sole_all _ (by decide +kernel)
theorem sole_allowlisted_vars : (otherWriters spec_allowlisted_vars).isEmpty = true ∨ OField.allowlisted_vars ∈ multiWriterFields ∨ OField.allowlisted_vars ∈ knownDefectFields := sole_all _ (by decide +kernel)
theorem sole_allowlisted_files : (otherWriters spec_allowlisted_files).isEmpty = true ∨ OField.allowlisted_files ∈ multiWriterFields ∨ OField.allowlisted_files ∈ knownDefectFields := sole_all _ (by decide +kernel)
theorem sole_allowlisted_items : (otherWriters spec_allowlisted_items).isEmpty = true ∨ OField.allowlisted_items ∈ multiWriterFields ∨ OField.allowlisted_items ∈ knownDefectFields := sole_all _ (by decide +kernel)
theorem sole_default_enum_style : (otherWriters spec_default_enum_style).isEmpty = true ∨ OField.default_enum_style ∈ multiWriterFields ∨ OField.default_enum_style ∈ knownDefectFields := sole_all _ (by decide +kernel)
theorem sole_bitfield_enums : (otherWriters spec_bitfield_enums).isEmpty = true ∨ OField.bitfield_enums ∈ multiWriterFields ∨ OField.bitfield_enums ∈ knownDefectFields := sole_all _ (by decide +kernel)
theorem sole_newtype_enums : (otherWriters spec_newtype_enums).isEmpty = true ∨ OField.newtype_enums ∈ multiWriterFields ∨ OField.newtype_enums ∈ knownDefectFields := sole_all _ (by decide +kernel)
theorem sole_newtype_global_enums : (otherWriters spec_newtype_global_enums).isEmpty = true ∨ OField.newtype_global_enums ∈ multiWriterFields ∨ OField.newtype_global_enums ∈ knownDefectFields := sole_all _ (by decide +kernel)
theorem sole_rustified_enums : (otherWriters spec_rustified_enums).isEmpty = true ∨ OField.rustified_enums ∈ multiWriterFields ∨ OField.rustified_enums ∈ knownDefectFields := sole_all _ (by decide +kernel)
theorem sole_rustified_non_exhaustive_enums : (otherWriters spec_rustified_non_exhaustive_enums).isEmpty = true ∨ OField.rustified_non_exhaustive_enums ∈ multiWriterFields ∨ OField.rustified_non_exhaustive_enums ∈ knownDefectFields := sole_all _ (by decide +kernel)
theorem sole_constified_enum_modules : (otherWriters spec_constified_enum_modules).isEmpty = true ∨ OField.constified_enum_modules ∈ multiWriterFields ∨ OField.constified_enum_modules ∈ knownDefectFields := sole_all _ (by decide +kernel)
theorem sole_constified_enums : (otherWriters spec_constified_enums).isEmpty = true ∨ OField.constified_enums ∈ multiWriterFields ∨ OField.constified_enums ∈ knownDefectFields := sole_all _ (by decide +kernel)
theorem sole_default_macro_constant_type : (otherWriters spec_default_macro_constant_type).isEmpty = true ∨ OField.default_macro_constant_type ∈ multiWriterFields ∨ OField.default_macro_constant_type ∈ knownDefectFields := sole_all _ (by decide +kernel)
theorem sole_default_alias_style : (otherWriters spec_default_alias_style).isEmpty = true ∨ OField.default_alias_style ∈ multiWriterFields ∨ OField.default_alias_style ∈ knownDefectFields := sole_all _ (by decide +kernel)
theorem sole_type_alias : (otherWriters spec_type_alias).isEmpty = true ∨ OField.type_alias ∈ multiWriterFields ∨ OField.type_alias ∈ knownDefectFields := sole_all _ (by decide +kernel)
theorem sole_new_type_alias : (otherWriters spec_new_type_alias).isEmpty = true ∨ OField.new_type_alias ∈ multiWriterFields ∨ OField.new_type_alias ∈ knownDefectFields := sole_all _ (by decide +kernel)
theorem sole_new_type_alias_deref : (otherWriters spec_new_type_alias_deref).isEmpty = true ∨ OField.new_type_alias_deref ∈ multiWriterFields ∨ OField.new_type_alias_deref ∈ knownDefectFields := sole_all _ (by decide +kernel)
theorem sole_default_non_copy_union_style : (otherWriters spec_default_non_copy_union_style).isEmpty = true ∨ OField.default_non_copy_union_style ∈ multiWriterFields ∨ OField.default_non_copy_union_style ∈ knownDefectFields := sole_all _ (by decide +kernel)
theorem sole_bindgen_wrapper_union : (otherWriters spec_bindgen_wrapper_union).isEmpty = true ∨ OField.bindgen_wrapper_union ∈ multiWriterFields ∨ OField.bindgen_wrapper_union ∈ knownDefectFields := sole_all _ (by decide +kernel)
theorem sole_manually_drop_union : (otherWriters spec_manually_drop_union).isEmpty = true ∨ OField.manually_drop_union ∈ multiWriterFields ∨ OField.manually_drop_union ∈ knownDefectFields := sole_all _ (by decide +kernel)
theorem sole_builtins : (otherWriters spec_builtins).isEmpty = true ∨ OField.builtins ∈ multiWriterFields ∨ OField.builtins ∈ knownDefectFields := sole_all _ (by decide +kernel)
theorem sole_emit_ast : (otherWriters spec_emit_ast).isEmpty = true ∨ OField.emit_ast ∈ multiWriterFields ∨ OField.emit_ast ∈ knownDefectFields := sole_all _ (by decide +kernel)
theorem sole_emit_ir : (otherWriters spec_emit_ir).isEmpty = true ∨ OField.emit_ir ∈ multiWriterFields ∨ OField.emit_ir ∈ knownDefectFields := sole_all _ (by decide +kernel)
theorem sole_emit_ir_graphviz : (otherWriters spec_emit_ir_graphviz).isEmpty = true ∨ OField.emit_ir_graphviz ∈ multiWriterFields ∨ OField.emit_ir_graphviz ∈ knownDefectFields := sole_all _ (by decide +kernel)
theorem sole_enable_cxx_namespaces : (otherWriters spec_enable_cxx_namespaces).isEmpty = true ∨ OField.enable_cxx_namespaces ∈ multiWriterFields ∨ OField.enable_cxx_namespaces ∈ knownDefectFields := sole_all _ (by decide +kernel)
theorem sole_enable_function_attribute_detection : (otherWriters spec_enable_function_attribute_detection).isEmpty = true ∨ OField.enable_function_attribute_detection ∈ multiWriterFields ∨ OField.enable_function_attribute_detection ∈ knownDefectFields := sole_all _ (by decide +kernel)
theorem sole_disable_name_namespacing : (otherWriters spec_disable_name_namespacing).isEmpty = true ∨ OField.disable_name_namespacing ∈ multiWriterFields ∨ OField.disable_name_namespacing ∈ knownDefectFields := sole_all _ (by decide +kernel)
theorem sole_disable_nested_struct_naming : (otherWriters spec_disable_nested_struct_naming).isEmpty = true ∨ OField.disable_nested_struct_naming ∈ multiWriterFields ∨ OField.disable_nested_struct_naming ∈ knownDefectFields := sole_all _ (by decide +kernel)
theorem sole_disable_header_comment : (otherWriters spec_disable_header_comment).isEmpty = true ∨ OField.disable_header_comment ∈ multiWriterFields ∨ OField.disable_header_comment ∈ knownDefectFields := sole_all _ (by decide +kernel)
theorem sole_layout_tests : (otherWriters spec_layout_tests).isEmpty = true ∨ OField.layout_tests ∈ multiWriterFields ∨ OField.layout_tests ∈ knownDefectFields := sole_all _ (by decide +kernel)
theorem sole_impl_debug : (otherWriters spec_impl_debug).isEmpty = true ∨ OField.impl_debug ∈ multiWriterFields ∨ OField.impl_debug ∈ knownDefectFields := sole_all _ (by decide +kernel)
theorem sole_impl_partialeq : (otherWriters spec_impl_partialeq).isEmpty = true ∨ OField.impl_partialeq ∈ multiWriterFields ∨ OField.impl_partialeq ∈ knownDefectFields := sole_all _ (by decide +kernel)
theorem sole_derive_copy : (otherWriters spec_derive_copy).isEmpty = true ∨ OField.derive_copy ∈ multiWriterFields ∨ OField.derive_copy ∈ knownDefectFields := sole_all _ (by decide +kernel)
theorem sole_derive_debug : (otherWriters spec_derive_debug).isEmpty = true ∨ OField.derive_debug ∈ multiWriterFields ∨ OField.derive_debug ∈ knownDefectFields := sole_all _ (by decide +kernel)
theorem sole_derive_default : (otherWriters spec_derive_default).isEmpty = true ∨ OField.derive_default ∈ multiWriterFields ∨ OField.derive_default ∈ knownDefectFields := sole_all _ (by decide +kernel)
theorem sole_derive_hash : (otherWriters spec_derive_hash).isEmpty = true ∨ OField.derive_hash ∈ multiWriterFields ∨ OField.derive_hash ∈ knownDefectFields := sole_all _ (by decide +kernel)
theorem sole_derive_partialord : (otherWriters spec_derive_partialord).isEmpty = true ∨ OField.derive_partialord ∈ multiWriterFields ∨ OField.derive_partialord ∈ knownDefectFields := sole_all _ (by decide +kernel)
theorem sole_derive_ord : (otherWriters spec_derive_ord).isEmpty = true ∨ OField.derive_ord ∈ multiWriterFields ∨ OField.derive_ord ∈ knownDefectFields := sole_all _ (by decide +kernel)
theorem sole_derive_partialeq : (otherWriters spec_derive_partialeq).isEmpty = true ∨ OField.derive_partialeq ∈ multiWriterFields ∨ OField.derive_partialeq ∈ knownDefectFields := sole_all _ (by decide +kernel)
theorem sole_derive_eq : (otherWriters spec_derive_eq).isEmpty = true ∨ OField.derive_eq ∈ multiWriterFields ∨ OField.derive_eq ∈ knownDefectFields := sole_all _ (by decide +kernel)
theorem sole_use_core : (otherWriters spec_use_core).isEmpty = true ∨ OField.use_core ∈ multiWriterFields ∨ OField.use_core ∈ knownDefectFields := sole_all _ (by decide +kernel)
theorem sole_ctypes_prefix : (otherWriters spec_ctypes_prefix).isEmpty = true ∨ OField.ctypes_prefix ∈ multiWriterFields ∨ OField.ctypes_prefix ∈ knownDefectFields := sole_all _ (by decide +kernel)
theorem sole_anon_fields_prefix : (otherWriters spec_anon_fields_prefix).isEmpty = true ∨ OField.anon_fields_prefix ∈ multiWriterFields ∨ OField.anon_fields_prefix ∈ knownDefectFields := sole_all _ (by decide +kernel)
theorem sole_time_phases : (otherWriters spec_time_phases).isEmpty = true ∨ OField.time_phases ∈ multiWriterFields ∨ OField.time_phases ∈ knownDefectFields := sole_all _ (by decide +kernel)
theorem sole_convert_floats : (otherWriters spec_convert_floats).isEmpty = true ∨ OField.convert_floats ∈ multiWriterFields ∨ OField.convert_floats ∈ knownDefectFields := sole_all _ (by decide +kernel)
theorem sole_raw_lines : (otherWriters spec_raw_lines).isEmpty = true ∨ OField.raw_lines ∈ multiWriterFields ∨ OField.raw_lines ∈ knownDefectFields := sole_all _ (by decide +kernel)
theorem sole_module_lines : (otherWriters spec_module_lines).isEmpty = true ∨ OField.module_lines ∈ multiWriterFields ∨ OField.module_lines ∈ knownDefectFields := sole_all _ (by decide +kernel)
theorem sole_input_headers : (otherWriters spec_input_headers).isEmpty = true ∨ OField.input_headers ∈ multiWriterFields ∨ OField.input_headers ∈ knownDefectFields := sole_all _ (by decide +kernel)
theorem sole_clang_args : (otherWriters spec_clang_args).isEmpty = true ∨ OField.clang_args ∈ multiWriterFields ∨ OField.clang_args ∈ knownDefectFields := sole_all _ (by decide +kernel)
theorem sole_fallback_clang_args : (otherWriters spec_fallback_clang_args).isEmpty = true ∨ OField.fallback_clang_args ∈ multiWriterFields ∨ OField.fallback_clang_args ∈ knownDefectFields := sole_all _ (by decide +kernel)
theorem sole_input_header_contents : (otherWriters spec_input_header_contents).isEmpty = true ∨ OField.input_header_contents ∈ multiWriterFields ∨ OField.input_header_contents ∈ knownDefectFields := sole_all _ (by decide +kernel)
theorem sole_parse_callbacks : (otherWriters spec_parse_callbacks).isEmpty = true ∨ OField.parse_callbacks ∈ multiWriterFields ∨ OField.parse_callbacks ∈ knownDefectFields := sole_all _ (by decide +kernel)
theorem sole_codegen_config : (otherWriters spec_codegen_config).isEmpty = true ∨ OField.codegen_config ∈ multiWriterFields ∨ OField.codegen_config ∈ knownDefectFields := sole_all _ (by decide +kernel)
theorem sole_conservative_inline_namespaces : (otherWriters spec_conservative_inline_namespaces).isEmpty = true ∨ OField.conservative_inline_namespaces ∈ multiWriterFields ∨ OField.conservative_inline_namespaces ∈ knownDefectFields := sole_all _ (by decide +kernel)
theorem sole_generate_comments : (otherWriters spec_generate_comments).isEmpty = true ∨ OField.generate_comments ∈ multiWriterFields ∨ OField.generate_comments ∈ knownDefectFields := sole_all _ (by decide +kernel)
theorem sole_generate_cxx_nonnull_references : (otherWriters spec_generate_cxx_nonnull_references).isEmpty = true ∨ OField.generate_cxx_nonnull_references ∈ multiWriterFields ∨ OField.generate_cxx_nonnull_references ∈ knownDefectFields := sole_all _ (by decide +kernel)
theorem sole_generate_inline_functions : (otherWriters spec_generate_inline_functions).isEmpty = true ∨ OField.generate_inline_functions ∈ multiWriterFields ∨ OField.generate_inline_functions ∈ knownDefectFields := sole_all _ (by decide +kernel)
theorem sole_allowlist_recursively : (otherWriters spec_allowlist_recursively).isEmpty = true ∨ OField.allowlist_recursively ∈ multiWriterFields ∨ OField.allowlist_recursively ∈ knownDefectFields := sole_all _ (by decide +kernel)
theorem sole_objc_extern_crate : (otherWriters spec_objc_extern_crate).isEmpty = true ∨ OField.objc_extern_crate ∈ multiWriterFields ∨ OField.objc_extern_crate ∈ knownDefectFields := sole_all _ (by decide +kernel)
theorem sole_generate_block : (otherWriters spec_generate_block).isEmpty = true ∨ OField.generate_block ∈ multiWriterFields ∨ OField.generate_block ∈ knownDefectFields := sole_all _ (by decide +kernel)
theorem sole_generate_cstr : (otherWriters spec_generate_cstr).isEmpty = true ∨ OField.generate_cstr ∈ multiWriterFields ∨ OField.generate_cstr ∈ knownDefectFields := sole_all _ (by decide +kernel)
theorem sole_block_extern_crate : (otherWriters spec_block_extern_crate).isEmpty = true ∨ OField.block_extern_crate ∈ multiWriterFields ∨ OField.block_extern_crate ∈ knownDefectFields := sole_all _ (by decide +kernel)
theorem sole_enable_mangling : (otherWriters spec_enable_mangling).isEmpty = true ∨ OField.enable_mangling ∈ multiWriterFields ∨ OField.enable_mangling ∈ knownDefectFields := sole_all _ (by decide +kernel)
theorem sole_detect_include_paths : (otherWriters spec_detect_include_paths).isEmpty = true ∨ OField.detect_include_paths ∈ multiWriterFields ∨ OField.detect_include_paths ∈ knownDefectFields := sole_all _ (by decide +kernel)
theorem sole_fit_macro_constants : (otherWriters spec_fit_macro_constants).isEmpty = true ∨ OField.fit_macro_constants ∈ multiWriterFields ∨ OField.fit_macro_constants ∈ knownDefectFields := sole_all _ (by decide +kernel)
theorem sole_prepend_enum_name : (otherWriters spec_prepend_enum_name).isEmpty = true ∨ OField.prepend_enum_name ∈ multiWriterFields ∨ OField.prepend_enum_name ∈ knownDefectFields := sole_all _ (by decide +kernel)
theorem sole_rust_target : (otherWriters spec_rust_target).isEmpty = true ∨ OField.rust_target ∈ multiWriterFields ∨ OField.rust_target ∈ knownDefectFields := sole_all _ (by decide +kernel)
theorem sole_rust_edition : (otherWriters spec_rust_edition).isEmpty = true ∨ OField.rust_edition ∈ multiWriterFields ∨ OField.rust_edition ∈ knownDefectFields := sole_all _ (by decide +kernel)
theorem sole_rust_features : (otherWriters spec_rust_features).isEmpty = true ∨ OField.rust_features ∈ multiWriterFields ∨ OField.rust_features ∈ knownDefectFields := sole_all _ (by decide +kernel)
theorem sole_untagged_union : (otherWriters spec_untagged_union).isEmpty = true ∨ OField.untagged_union ∈ multiWriterFields ∨ OField.untagged_union ∈ knownDefectFields := sole_all _ (by decide +kernel)
theorem sole_record_matches : (otherWriters spec_record_matches).isEmpty = true ∨ OField.record_matches ∈ multiWriterFields ∨ OField.record_matches ∈ knownDefectFields := sole_all _ (by decide +kernel)
theorem sole_size_t_is_usize : (otherWriters spec_size_t_is_usize).isEmpty = true ∨ OField.size_t_is_usize ∈ multiWriterFields ∨ OField.size_t_is_usize ∈ knownDefectFields := sole_all _ (by decide +kernel)
theorem sole_formatter : (otherWriters spec_formatter).isEmpty = true ∨ OField.formatter ∈ multiWriterFields ∨ OField.formatter ∈ knownDefectFields := sole_all _ (by decide +kernel)
theorem sole_rustfmt_configuration_file : (otherWriters spec_rustfmt_configuration_file).isEmpty = true ∨ OField.rustfmt_configuration_file ∈ multiWriterFields ∨ OField.rustfmt_configuration_file ∈ knownDefectFields := sole_all _ (by decide +kernel)
theorem sole_no_partialeq_types : (otherWriters spec_no_partialeq_types).isEmpty = true ∨ OField.no_partialeq_types ∈ multiWriterFields ∨ OField.no_partialeq_types ∈ knownDefectFields := sole_all _ (by decide +kernel)
theorem sole_no_copy_types : (otherWriters spec_no_copy_types).isEmpty = true ∨ OField.no_copy_types ∈ multiWriterFields ∨ OField.no_copy_types ∈ knownDefectFields := sole_all _ (by decide +kernel)
theorem sole_no_debug_types : (otherWriters spec_no_debug_types).isEmpty = true ∨ OField.no_debug_types ∈ multiWriterFields ∨ OField.no_debug_types ∈ knownDefectFields := sole_all _ (by decide +kernel)
theorem sole_no_default_types : (otherWriters spec_no_default_types).isEmpty = true ∨ OField.no_default_types ∈ multiWriterFields ∨ OField.no_default_types ∈ knownDefectFields := sole_all _ (by decide +kernel)
theorem sole_no_hash_types : (otherWriters spec_no_hash_types).isEmpty = true ∨ OField.no_hash_types ∈ multiWriterFields ∨ OField.no_hash_types ∈ knownDefectFields := sole_all _ (by decide +kernel)
theorem sole_must_use_types : (otherWriters spec_must_use_types).isEmpty = true ∨ OField.must_use_types ∈ multiWriterFields ∨ OField.must_use_types ∈ knownDefectFields := sole_all _ (by decide +kernel)
theorem sole_array_pointers_in_arguments : (otherWriters spec_array_pointers_in_arguments).isEmpty = true ∨ OField.array_pointers_in_arguments ∈ multiWriterFields ∨ OField.array_pointers_in_arguments ∈ knownDefectFields := sole_all _ (by decide +kernel)
theorem sole_extern_fn_block_attrs : (otherWriters spec_extern_fn_block_attrs).isEmpty = true ∨ OField.extern_fn_block_attrs ∈ multiWriterFields ∨ OField.extern_fn_block_attrs ∈ knownDefectFields := sole_all _ (by decide +kernel)
theorem sole_wasm_import_module_name : (otherWriters spec_wasm_import_module_name).isEmpty = true ∨ OField.wasm_import_module_name ∈ multiWriterFields ∨ OField.wasm_import_module_name ∈ knownDefectFields := sole_all _ (by decide +kernel)
theorem sole_dynamic_library_name : (otherWriters spec_dynamic_library_name).isEmpty = true ∨ OField.dynamic_library_name ∈ multiWriterFields ∨ OField.dynamic_library_name ∈ knownDefectFields := sole_all _ (by decide +kernel)
theorem sole_dynamic_link_require_all : (otherWriters spec_dynamic_link_require_all).isEmpty = true ∨ OField.dynamic_link_require_all ∈ multiWriterFields ∨ OField.dynamic_link_require_all ∈ knownDefectFields := sole_all _ (by decide +kernel)
theorem sole_respect_cxx_access_specs : (otherWriters spec_respect_cxx_access_specs).isEmpty = true ∨ OField.respect_cxx_access_specs ∈ multiWriterFields ∨ OField.respect_cxx_access_specs ∈ knownDefectFields := sole_all _ (by decide +kernel)
theorem sole_translate_enum_integer_types : (otherWriters spec_translate_enum_integer_types).isEmpty = true ∨ OField.translate_enum_integer_types ∈ multiWriterFields ∨ OField.translate_enum_integer_types ∈ knownDefectFields := sole_all _ (by decide +kernel)
theorem sole_c_naming : (otherWriters spec_c_naming).isEmpty = true ∨ OField.c_naming ∈ multiWriterFields ∨ OField.c_naming ∈ knownDefectFields := sole_all _ (by decide +kernel)
theorem sole_force_explicit_padding : (otherWriters spec_force_explicit_padding).isEmpty = true ∨ OField.force_explicit_padding ∈ multiWriterFields ∨ OField.force_explicit_padding ∈ knownDefectFields := sole_all _ (by decide +kernel)
theorem sole_vtable_generation : (otherWriters spec_vtable_generation).isEmpty = true ∨ OField.vtable_generation ∈ multiWriterFields ∨ OField.vtable_generation ∈ knownDefectFields := sole_all _ (by decide +kernel)
theorem sole_sort_semantically : (otherWriters spec_sort_semantically).isEmpty = true ∨ OField.sort_semantically ∈ multiWriterFields ∨ OField.sort_semantically ∈ knownDefectFields := sole_all _ (by decide +kernel)
theorem sole_merge_extern_blocks : (otherWriters spec_merge_extern_blocks).isEmpty = true ∨ OField.merge_extern_blocks ∈ multiWriterFields ∨ OField.merge_extern_blocks ∈ knownDefectFields := sole_all _ (by decide +kernel)
theorem sole_wrap_unsafe_ops : (otherWriters spec_wrap_unsafe_ops).isEmpty = true ∨ OField.wrap_unsafe_ops ∈ multiWriterFields ∨ OField.wrap_unsafe_ops ∈ knownDefectFields := sole_all _ (by decide +kernel)
theorem sole_flexarray_dst : (otherWriters spec_flexarray_dst).isEmpty = true ∨ OField.flexarray_dst ∈ multiWriterFields ∨ OField.flexarray_dst ∈ knownDefectFields := sole_all _ (by decide +kernel)
theorem sole_abi_overrides : (otherWriters spec_abi_overrides).isEmpty = true ∨ OField.abi_overrides ∈ multiWriterFields ∨ OField.abi_overrides ∈ knownDefectFields := sole_all _ (by decide +kernel)
theorem sole_wrap_static_fns : (otherWriters spec_wrap_static_fns).isEmpty = true ∨ OField.wrap_static_fns ∈ multiWriterFields ∨ OField.wrap_static_fns ∈ knownDefectFields := sole_all _ (by decide +kernel)
theorem sole_wrap_static_fns_suffix : (otherWriters spec_wrap_static_fns_suffix).isEmpty = true ∨ OField.wrap_static_fns_suffix ∈ multiWriterFields ∨ OField.wrap_static_fns_suffix ∈ knownDefectFields := sole_all _ (by decide +kernel)
theorem sole_wrap_static_fns_path : (otherWriters spec_wrap_static_fns_path).isEmpty = true ∨ OField.wrap_static_fns_path ∈ multiWriterFields ∨ OField.wrap_static_fns_path ∈ knownDefectFields := sole_all _ (by decide +kernel)
theorem sole_default_visibility : (otherWriters spec_default_visibility).isEmpty = true ∨ OField.default_visibility ∈ multiWriterFields ∨ OField.default_visibility ∈ knownDefectFields := sole_all _ (by decide +kernel)
theorem sole_emit_diagnostics : (otherWriters spec_emit_diagnostics).isEmpty = true ∨ OField.emit_diagnostics ∈ multiWriterFields ∨ OField.emit_diagnostics ∈ knownDefectFields := sole_all _ (by decide +kernel)
theorem sole_clang_macro_fallback : (otherWriters spec_clang_macro_fallback).isEmpty = true ∨ OField.clang_macro_fallback ∈ multiWriterFields ∨ OField.clang_macro_fallback ∈ knownDefectFields := sole_all _ (by decide +kernel)
theorem sole_clang_macro_fallback_build_dir : (otherWriters spec_clang_macro_fallback_build_dir).isEmpty = true ∨ OField.clang_macro_fallback_build_dir ∈ multiWriterFields ∨ OField.clang_macro_fallback_build_dir ∈ knownDefectFields := sole_all _ (by decide +kernel)
theorem sole_generate_deleted_functions : (otherWriters spec_generate_deleted_functions).isEmpty = true ∨ OField.generate_deleted_functions ∈ multiWriterFields ∨ OField.generate_deleted_functions ∈ knownDefectFields := sole_all _ (by decide +kernel)
theorem sole_generate_pure_virtual_functions : (otherWriters spec_generate_pure_virtual_functions).isEmpty = true ∨ OField.generate_pure_virtual_functions ∈ multiWriterFields ∨ OField.generate_pure_virtual_functions ∈ knownDefectFields := sole_all _ (by decide +kernel)
theorem sole_generate_private_functions : (otherWriters spec_generate_private_functions).isEmpty = true ∨ OField.generate_private_functions ∈ multiWriterFields ∨ OField.generate_private_functions ∈ knownDefectFields := sole_all _ (by decide +kernel)
theorem sole_field_attr_patterns : (otherWriters spec_field_attr_patterns).isEmpty = true ∨ OField.field_attr_patterns ∈ multiWriterFields ∨ OField.field_attr_patterns ∈ knownDefectFields := sole_all _ (by decide +kernel)

end BindgenModel.Generated
